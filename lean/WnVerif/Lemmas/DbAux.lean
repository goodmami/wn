/- The helpers of the relational model (`Model/Db.lean`, `Model/Query.lean`), each with the lemmas the proofs
use it through: `ORDER BY` (`insertBy`, `sortBy`: a stable insertion sort), `DISTINCT` (`dedupBy`), rowid allocation
(`nextId`), the look-up tables (`relation_types`, `lexfiles`, `ili_statuses`), ids resolved to rowids, the lexicon
filter `lexicon_rowid IN (…)` (`inLex`, `inLexOrAll`). -/
import WnVerif.Model.Query
import WnVerif.Lemmas.Lists
import WnVerif.Lemmas.InsertNew
import WnVerif.Lemmas.Forall2
namespace WnVerif.Db
open WnVerif

theorem insertBy_perm {α} (key : α → Nat) (a : α) : ∀ (l : List α), (insertBy key a l).Perm (a :: l) := by
  intro l
  induction l with
  | nil => exact List.Perm.refl _
  | cons b t ih =>
    simp only [insertBy]
    split
    · exact (List.Perm.cons b ih).trans (List.Perm.swap a b t)
    · exact List.Perm.refl _

theorem mem_insertBy {α} (key : α → Nat) (a : α) (l : List α) (x : α) : x ∈ insertBy key a l ↔ x = a ∨ x ∈ l :=
  (insertBy_perm key a l).mem_iff.trans List.mem_cons

theorem sortBy_perm {α} (key : α → Nat) (l : List α) : (sortBy key l).Perm l := by
  have := foldl_inv (fun acc a => insertBy key a acc) (fun done acc => acc.Perm done)
    (fun done acc a h => (insertBy_perm key a acc).trans ((h.cons a).trans (List.perm_append_singleton a done).symm))
    l [] [] (List.Perm.refl _)
  rwa [List.nil_append] at this

theorem mem_sortBy {α} (key : α → Nat) (l : List α) (x : α) : x ∈ sortBy key l ↔ x ∈ l :=
  (sortBy_perm key l).mem_iff

theorem insertBy_sorted {α} (key : α → Nat) (a : α) : ∀ (l : List α), l.Pairwise (fun x y => key x ≤ key y) →
    (insertBy key a l).Pairwise (fun x y => key x ≤ key y)
  | [], _ => List.pairwise_singleton _ _
  | b :: t, h => by
    simp only [insertBy]
    split
    · exact pairwise_cons_insert ‹_› h (fun x hx => (mem_insertBy key a t x).mp hx)
        (insertBy_sorted key a t (List.pairwise_cons.mp h).2)
    · exact pairwise_cons_front (R := fun x y => key x ≤ key y) Nat.le_trans (Nat.le_of_lt (Nat.lt_of_not_le ‹_›)) h

theorem sortBy_sorted {α} (key : α → Nat) (l : List α) : (sortBy key l).Pairwise (fun x y => key x ≤ key y) :=
  foldl_inv (fun acc a => insertBy key a acc) (fun _ acc => acc.Pairwise (fun x y => key x ≤ key y))
    (fun _ acc a h => insertBy_sorted key a acc h) l [] [] List.Pairwise.nil

theorem insertBy_append_of_le {α} (key : α → Nat) (a : α) : ∀ (l : List α), (∀ x ∈ l, key x ≤ key a) →
    insertBy key a l = l ++ [a] := by
  intro l
  induction l with
  | nil => intro _; rfl
  | cons b t ih =>
    intro h
    simp only [insertBy, h b List.mem_cons_self, if_true, List.cons_append]
    rw [ih (fun x hx => h x (List.mem_cons_of_mem _ hx))]

theorem sortBy_of_sorted {α} (key : α → Nat) (l : List α) (h : l.Pairwise (fun x y => key x ≤ key y)) : sortBy key l = l := by
  have := foldl_inv (fun acc a => insertBy key a acc)
    (fun done acc => done.Pairwise (fun x y => key x ≤ key y) → acc = done)
    (fun done acc a ih hs => by
      have hp := List.pairwise_append.mp hs
      rw [ih hp.1, insertBy_append_of_le key a done fun x hx => hp.2.2 x hx a (List.mem_singleton_self a)])
    l [] [] (fun _ => rfl)
  exact this h

theorem insertBy_of_lt_all {α} (key : α → Nat) (a : α) (L : List α) (h : ∀ y ∈ L, key a < key y) :
    insertBy key a L = a :: L := by
  cases L with
  | nil => rfl
  | cons b t =>
    have := h b List.mem_cons_self
    simp only [insertBy]
    rw [if_neg (by omega)]

/-- Sortedness is what puts `a`, once it stops in front of a `b` with a larger key, in front of everything that is left
of `b :: t` after filtering (`hall`). -/
theorem filter_insertBy {α} (key : α → Nat) (p : α → Bool) (a : α) : ∀ (l : List α),
    l.Pairwise (fun x y => key x ≤ key y) →
    (insertBy key a l).filter p = if p a then insertBy key a (l.filter p) else l.filter p := by
  intro l
  induction l with
  | nil => intro _; cases hp : p a <;> simp [insertBy, hp]
  | cons b t ih =>
    intro hs
    obtain ⟨hb, ht⟩ := List.pairwise_cons.mp hs
    simp only [insertBy]
    by_cases hk : key b ≤ key a
    · rw [if_pos hk, List.filter_cons, ih ht]
      cases hpb : p b <;> cases hpa : p a <;> simp [hpb, insertBy, hk]
    · rw [if_neg hk]
      have hall : ∀ y ∈ (b :: t).filter p, key a < key y := by
        intro y hy
        have hy' := (List.mem_filter.mp hy).1
        rcases List.mem_cons.mp hy' with rfl | hy'
        · omega
        · have := hb y hy'; omega
      cases hpa : p a
      · simp [List.filter_cons, hpa]
      · simp only [if_true]
        rw [insertBy_of_lt_all key a _ hall, List.filter_cons, hpa]
        rfl

/-- the sort is stable, so it commutes with filtering -/
theorem sortBy_filter {α} (key : α → Nat) (p : α → Bool) (l : List α) :
    (sortBy key l).filter p = sortBy key (l.filter p) := by
  have := foldl_inv (fun acc a => insertBy key a acc)
    (fun done acc => acc.Pairwise (fun x y => key x ≤ key y) ∧ acc.filter p = sortBy key (done.filter p))
    (fun done acc a ⟨hs, ih⟩ => ⟨insertBy_sorted key a acc hs, by
      rw [filter_insertBy key p a acc hs, ih, List.filter_append, sortBy, sortBy, List.foldl_append]
      cases hpa : p a <;> simp [hpa]⟩) l [] [] ⟨.nil, rfl⟩
  exact this.2

theorem sortBy_append_filterMap {α β} {key : α → Nat} {g' g : α → Option β} {A B : List α}
    (hB : ∀ b ∈ B, g' b = none) (hA : ∀ a ∈ A, g' a = g a) :
    (sortBy key (A ++ B)).filterMap g' = (sortBy key A).filterMap g := by
  rw [filterMap_drop_none g' (sortBy key (A ++ B)), sortBy_filter,
    filter_append_right_nil (fun b hb => by rw [hB b hb]; rfl), ← sortBy_filter, ← filterMap_drop_none]
  exact filterMap_congr fun a ha => hA a ((mem_sortBy _ _ _).mp ha)

theorem firstOfKey_dedupBy {α κ} [BEq κ] (key : α → κ) : FirstOfKey key (dedupBy key) := ⟨rfl, fun _ _ => rfl⟩

theorem mem_dedupBy {α β} [BEq β] (key : α → β) (l : List α) (x : α) (hx : x ∈ dedupBy key l) : x ∈ l :=
  ((firstOfKey_dedupBy key).sublist l).mem hx

theorem key_mem_dedupBy {α β} [BEq β] [LawfulBEq β] (key : α → β) (l : List α) (x : α) (hx : x ∈ l) :
    ∃ y ∈ dedupBy key l, key y = key x :=
  (firstOfKey_dedupBy key).key_mem l x hx

theorem dedupBy_nodup {α β} [BEq β] [LawfulBEq β] (key : α → β) (l : List α) : ((dedupBy key l).map key).Nodup :=
  (firstOfKey_dedupBy key).nodup l

theorem dedupBy_map {α τ κ} [BEq κ] (f : α → τ) (k : τ → κ) :
    ∀ l : List α, dedupBy k (l.map f) = (dedupBy (fun a => k (f a)) l).map f := by
  intro l
  induction l with
  | nil => rfl
  | cons a t ih => simp only [List.map_cons, dedupBy, ih, List.filter_map]; rfl

theorem _root_.WnVerif.Forall2.dedupBy {α β κ κ'} [BEq κ] [LawfulBEq κ] [BEq κ'] [LawfulBEq κ'] {R : α → β → Prop} (k : α → κ) (k' : β → κ')
    (hk : ∀ a b a' b', R a b → R a' b' → (k a = k a' ↔ k' b = k' b')) :
    ∀ {l : List α} {l' : List β}, Forall2 R l l' → Forall2 R (Db.dedupBy k l) (Db.dedupBy k' l') := by
  intro l l' hh
  induction hh with
  | nil => exact .nil
  | @cons a b l l' h0 _ ih =>
    refine .cons h0 (Forall2.filter_agree _ _ (fun x y hxy => ?_) ih)
    have e : (k x == k a) = (k' y == k' b) := Bool.eq_iff_iff.mpr (by simp only [beq_iff_eq]; exact hk x y a b hxy h0)
    rw [e]

theorem lt_nextId (ids : List Nat) : ∀ x ∈ ids, x < nextId ids := by
  unfold nextId
  induction ids with
  | nil => nofun
  | cons a t ih =>
    intro x hx
    rw [List.foldr_cons]
    rcases List.mem_cons.mp hx with rfl | hx
    · exact Nat.lt_succ_of_le (Nat.le_max_left _ _)
    · exact Nat.lt_of_lt_of_le (ih x hx) (Nat.succ_le_succ (Nat.le_max_right _ _))

theorem nextId_not_mem (ids : List Nat) : nextId ids ∉ ids :=
  fun h => Nat.lt_irrefl _ (lt_nextId ids _ h)

theorem nodup_append_nextId {ρ} (rowid : ρ → Nat) (T : List ρ) (r : ρ) (hr : rowid r = nextId (T.map rowid))
    (hn : (T.map rowid).Nodup) : ((T ++ [r]).map rowid).Nodup := by
  rw [List.map_append, List.nodup_append]
  refine ⟨hn, List.pairwise_singleton _ _, ?_⟩
  intro a ha b hb
  rw [List.map_cons, List.map_nil, List.mem_singleton] at hb
  rw [hb, hr]
  exact fun e => nextId_not_mem _ (e ▸ ha)

theorem lookupInsert_eq (t : List (Nat × String)) (v : String) :
    lookupInsert t v = if v ∈ t.map (·.2) then t else t ++ [(nextId (t.map (·.1)), v)] :=
  ite_any_beq t (·.2) v _ _

theorem lookupInsert_names (t : List (Nat × String)) (v : String) :
    (lookupInsert t v).map (·.2) = insertNew (t.map (·.2)) v := by
  rw [lookupInsert_eq, apply_ite (List.map fun e : Nat × String => e.2), List.map_append]
  rfl

theorem lookupInsert_prefix (t : List (Nat × String)) (v : String) : ∃ extra, lookupInsert t v = t ++ extra := by
  rw [lookupInsert_eq]
  split
  · exact ⟨[], (List.append_nil t).symm⟩
  · exact ⟨_, rfl⟩

theorem foldl_lookupInsert_prefix (vs : List String) (t : List (Nat × String)) : ∃ extra, vs.foldl lookupInsert t = t ++ extra :=
  foldl_inv lookupInsert (fun _ t' => ∃ extra, t' = t ++ extra)
    (fun _ t' v ⟨e, he⟩ => by obtain ⟨e2, h2⟩ := lookupInsert_prefix t' v; exact ⟨e ++ e2, by rw [h2, he, List.append_assoc]⟩)
    vs [] t ⟨[], (List.append_nil t).symm⟩

theorem lookupInsert_nodup (t : List (Nat × String)) (v : String) (h : (t.map (·.1)).Nodup) :
    ((lookupInsert t v).map (·.1)).Nodup := by
  rw [lookupInsert_eq]
  split
  · exact h
  · exact nodup_append_nextId (·.1) t (nextId (t.map (·.1)), v) rfl h

theorem foldl_lookupInsert_nodup (vs : List String) (t : List (Nat × String)) (h : (t.map (·.1)).Nodup) :
    ((vs.foldl lookupInsert t).map (·.1)).Nodup :=
  foldl_inv lookupInsert (fun _ t => (t.map (·.1)).Nodup) (fun _ t v => lookupInsert_nodup t v) vs [] t h

theorem lookupName_of_lookupId {t : List (Nat × String)} (h : (t.map (·.1)).Nodup) {v : String} {i : Nat}
    (hi : lookupId t v = some i) : lookupName t i = some v := by
  obtain ⟨r, hr, hv, rfl⟩ := find?_map_eq_some hi
  unfold lookupName
  rw [find?_key_eq_some (·.1) t h r hr, Option.map_some, eq_of_beq hv]

/-- `entryRow`, `senseRow`, `synsetRow` (`SELECT rowid FROM … WHERE id = ? AND lexicon_rowid = ?`) on a table instead of
a store, so that a row predicate can name the tables its references are resolved in -/
def entryRowE' (E : List REntry) (id : String) (lex : Nat) : Option Nat :=
  (E.find? (fun r => r.id == id && r.lex == lex)).map (·.rowid)
def senseRowS' (S : List RSense) (id : String) (lex : Nat) : Option Nat :=
  (S.find? (fun r => r.id == id && r.lex == lex)).map (·.rowid)
def synsetRowY' (Y : List RSynset) (id : String) (lex : Nat) : Option Nat :=
  (Y.find? (fun r => r.id == id && r.lex == lex)).map (·.rowid)

theorem senseRow_eq (db : Db) (id : String) (lex : Nat) : senseRow db id lex = senseRowS' db.senses id lex := rfl
theorem synsetRow_eq (db : Db) (id : String) (lex : Nat) : synsetRow db id lex = synsetRowY' db.synsets id lex := rfl

theorem lexiconRow_isSome (db : Db) (id version : String) :
    (lexiconRow db id version).isSome = db.lexicons.any (fun r => r.id == id && r.version == version) := by
  unfold lexiconRow
  rw [Option.isSome_map, List.isSome_find?]

theorem rowOf_some {ρ} {id : ρ → String} {lex rowid : ρ → Nat} {T : List ρ} {i : String} {k x : Nat}
    (h : (T.find? (fun r => id r == i && lex r == k)).map rowid = some x) :
    ∃ r ∈ T, id r = i ∧ lex r = k ∧ rowid r = x := by
  obtain ⟨r, hr, hp, hx⟩ := find?_map_eq_some h
  rw [Bool.and_eq_true, beq_iff_eq, beq_iff_eq] at hp
  exact ⟨r, hr, hp.1, hp.2, hx⟩

theorem find_rowOf {ρ} {id : ρ → String} {lex rowid : ρ → Nat} {T : List ρ} (hn : (T.map rowid).Nodup) {i : String} {k x : Nat}
    (h : (T.find? (fun r => id r == i && lex r == k)).map rowid = some x) :
    ∃ r, T.find? (fun y => rowid y == x) = some r ∧ r ∈ T ∧ id r = i ∧ lex r = k ∧ rowid r = x := by
  obtain ⟨r, hm, hi, hl, hr⟩ := rowOf_some h
  exact ⟨r, hr ▸ find?_key_eq_some rowid _ hn r hm, hm, hi, hl, hr⟩

/-- in a table `old ++ rows` whose old rows belong to other lexicons and whose new rows, all of `k`, have distinct ids, a
row of `k` is the one found under its id -/
theorem rowOf_new {ρ} (id : ρ → String) (lex rowid : ρ → Nat) {old rows : List ρ} {k : Nat}
    (hold : ∀ o ∈ old, lex o ≠ k) (hnew : ∀ r ∈ rows, lex r = k) (hd : (rows.map id).Nodup) {r : ρ}
    (hr : r ∈ old ++ rows) (hl : lex r = k) :
    ((old ++ rows).find? (fun x => id x == id r && lex x == k)).map rowid = some (rowid r) :=
  (List.mem_append.mp hr).elim (fun ho => absurd hl (hold r ho)) fun hr =>
    congrArg (Option.map rowid) (find?_new_row id lex hold hnew hd hr)

theorem formRow_some {db : Db} {eid : String} {lex : Nat} {fid : Option String} {rank : Option Nat} {x : Nat}
    (h : formRow db eid lex fid rank = some x) :
    ∃ f ∈ db.forms, (∃ e ∈ db.entries, e.lex = lex ∧ e.rowid = f.entry) ∧ f.rowid = x := by
  unfold formRow at h
  split at h
  · cases h
  · rename_i e he
    obtain ⟨f, hf, hp, hx⟩ := find?_map_eq_some h
    have hel := List.find?_some he
    exact ⟨f, hf, ⟨e, List.mem_of_find?_eq_some he, eq_of_beq (Bool.and_eq_true_iff.mp hel).2,
      (eq_of_beq (Bool.and_eq_true_iff.mp hp).1).symm⟩, hx⟩

theorem rowOf_inj {ρ} {id : ρ → String} {lex rowid : ρ → Nat} {T : List ρ} (hn : (T.map rowid).Nodup) (lid : String → Nat)
    (i j : String) (x : Nat) (hi : (T.find? (fun r => id r == i && lex r == lid i)).map rowid = some x)
    (hj : (T.find? (fun r => id r == j && lex r == lid j)).map rowid = some x) : i = j := by
  obtain ⟨a, ha, hai, -, har⟩ := rowOf_some hi
  obtain ⟨b, hb, hbi, -, hbr⟩ := rowOf_some hj
  rw [← hai, ← hbi, mem_eq_of_key rowid T hn a ha b hb (har.trans hbr.symm)]

theorem inLex_singleton (k x : Nat) : inLex [k] x = (x == k) := by
  simp only [inLex, List.contains_cons, List.contains_nil, Bool.or_false]

theorem inLexOrAll_singleton (k x : Nat) : inLexOrAll [k] x = (x == k) := by
  simp only [inLexOrAll, List.isEmpty_cons, Bool.false_or, List.contains_cons, List.contains_nil, Bool.or_false]

theorem mem_inLex {S : List Nat} {k : Nat} : inLex S k = true ↔ k ∈ S := List.contains_iff_mem

theorem inLex_outside {S : List Nat} {k : Nat} (h : k ∉ S) : inLex S k = false := by
  simpa [inLex] using h

theorem inLexOrAll_of_ne_nil {S : List Nat} (h : S ≠ []) : inLexOrAll S = inLex S := by
  funext k
  simp [inLexOrAll, inLex, h]

/-- the owner test is the last conjunct of every `WHERE` -/
theorem lex_mem_of_mem_filter {ρ} {p : ρ → Bool} {lex : ρ → Nat} {S : List Nat} {T : List ρ} {r : ρ}
    (h : r ∈ T.filter (fun r => p r && inLex S (lex r))) : lex r ∈ S :=
  mem_inLex.mp (Bool.and_eq_true_iff.mp (List.mem_filter.mp h).2).2

theorem filter_lex_append {ρ} (lex : ρ → Nat) {old rows : List ρ} {k : Nat}
    (hold : ∀ o ∈ old, lex o ≠ k) (hnew : ∀ r ∈ rows, lex r = k) :
    (old ++ rows).filter (fun r => inLexOrAll [k] (lex r)) = rows :=
  filter_append_eq_right (fun o ho => by simpa [inLexOrAll_singleton] using hold o ho)
    (fun r hr => by simp [inLexOrAll_singleton, hnew r hr])

theorem filter_owned_append {ρ} {old rows : List ρ} (owner lex : ρ → Nat) {x0 lexid : Nat}
    (hold : ∀ o ∈ old, lex o ≠ lexid) (hnew : ∀ r ∈ rows, lex r = lexid) :
    (old ++ rows).filter (fun r => owner r == x0 && inLex [lexid] (lex r)) = rows.filter (fun r => owner r == x0) := by
  rw [filter_append_left_nil (fun o ho => by simp [inLex_singleton, hold o ho])]
  exact List.filter_congr (fun r hr => by simp [inLex_singleton, hnew r hr])

/-- a "children of this owner" query (`owner = x0 AND lexicon_rowid IN (lexid)`) after an add: `pairs` are the
document's children with the id of their owner, `rows` what was written for them -/
theorem owned_query {π ρ τ} (look : String → Option Nat) (hinj : ∀ i j x, look i = some x → look j = some x → i = j)
    (owner lex : ρ → Nat) (oid : π → String) (payR : ρ → τ) (payD : π → τ) {old rows : List ρ} {pairs : List π} {lexid : Nat}
    (hold : ∀ o ∈ old, lex o ≠ lexid)
    (hF : Forall2 (fun p r => lex r = lexid ∧ look (oid p) = some (owner r) ∧ payR r = payD p) pairs rows)
    (sid : String) (x0 : Nat) (hx0 : look sid = some x0) :
    ((old ++ rows).filter (fun r => owner r == x0 && inLex [lexid] (lex r))).map payR =
      (pairs.filter (fun p => oid p == sid)).map payD := by
  rw [filter_owned_append owner lex hold (hF.forall_right fun _ _ hr => hr.1)]
  exact Forall2.map_eq _ _ (fun _ _ hr => hr.2.2) (Forall2.filter_owner hinj owner oid (fun _ _ hr => hr.2.1) hx0 hF)

/-- the same without a lexicon filter: no old row has the owner `x0`, and `look` resolves a document element to the
owner of its row -/
theorem looked_up_query {π ρ τ} (look : π → Option Nat) (owner : ρ → Nat) (payR : ρ → τ) (payD : π → τ)
    {old rows : List ρ} {pairs : List π} (x0 : Nat) (hold : ∀ o ∈ old, owner o ≠ x0)
    (hF : Forall2 (fun p r => look p = some (owner r) ∧ payR r = payD p) pairs rows) :
    ((old ++ rows).filter (fun r => owner r == x0)).map payR = (pairs.filter (fun p => look p == some x0)).map payD := by
  rw [filter_append_left_nil (fun o ho => by simpa using hold o ho)]
  exact Forall2.map_eq _ _ (fun _ _ h => h.2)
    (Forall2.filter_agree _ _ (fun p r h => by rw [h.1, Option.some_beq_some]) hF)

theorem iliIdOf_congr {a b : Db} (h : a.ilis = b.ilis) (r : Option Nat) : iliIdOf a r = iliIdOf b r := by
  unfold iliIdOf; rw [h]

/-- the argument of `iliIdOf` is the link that `_insert_synsets` stores for the ILI id `i` -/
theorem iliIdOf_find (db : Db) (hn : (db.ilis.map (·.rowid)).Nodup) (i : String) (hx : ∃ x ∈ db.ilis, x.id = i) :
    iliIdOf db ((db.ilis.find? (fun r => r.id == i)).map (·.rowid)) = some i := by
  obtain ⟨x, hx, hxi⟩ := hx
  cases hf : db.ilis.find? (fun r => r.id == i) with
  | none => exact absurd (List.find?_eq_none.mp hf x hx) (by simp [hxi])
  | some y =>
    have hyi : y.id = i := by simpa using List.find?_some hf
    simp only [Option.map_some, iliIdOf, find?_key_eq_some (·.rowid) _ hn y (List.mem_of_find?_eq_some hf), hyi]

theorem typeOk_of_lookupId (db : Db) (hnT : (db.reltypes.map (·.1)).Nodup) {types : List String}
    (htypes : (types.isEmpty || types.contains "*") = true) {ty : String} {k : Nat}
    (h : lookupId db.reltypes ty = some k) : typeOk db types k = some ty := by
  unfold typeOk
  rw [lookupName_of_lookupId hnT h]
  simp only
  rw [if_pos (by rw [Bool.or_eq_true]; exact Or.inl htypes)]

theorem mem_insertSb (a x : RSb) (l : List RSb) : x ∈ insertSb a l ↔ x = a ∨ x ∈ l := by
  induction l with
  | nil => simp [insertSb]
  | cons b t ih =>
    unfold insertSb
    split
    · simp
    · simp only [List.mem_cons, ih]
      exact or_left_comm

theorem mem_foldr_insertSb (x : RSb) (l : List RSb) : x ∈ l.foldr insertSb [] ↔ x ∈ l :=
  mem_foldr_insert insertSb (fun a l x => mem_insertSb a x l) l x

theorem senseData_eq_some {db : Db} {r : RSense} {s : SenseData} (h : senseData db r = some s) :
    ∃ e y, db.entries.find? (fun e => e.rowid == r.entry) = some e ∧
      db.synsets.find? (fun x => x.rowid == r.synset) = some y ∧ s = ⟨r.id, e.id, y.id, r.lex, r.rowid⟩ := by
  unfold senseData at h
  split at h
  · rename_i e y he hy
    cases h
    exact ⟨e, y, he, hy, rfl⟩
  · cases h

theorem senseData_lex {db : Db} {r : RSense} {s : SenseData} (h : senseData db r = some s) : s.lex = r.lex := by
  obtain ⟨_, _, -, -, rfl⟩ := senseData_eq_some h
  rfl

theorem mem_entrySenses (db : Db) (entry : Nat) (lexids : List Nat) (s : SenseData) :
    s ∈ entrySenses db entry lexids ↔
      ∃ row ∈ db.senses, row.entry = entry ∧ row.lex ∈ lexids ∧ senseData db row = some s := by
  simp only [entrySenses, List.mem_filterMap, mem_sortBy, List.mem_filter, Bool.and_eq_true, inLex,
    List.contains_iff_mem, beq_iff_eq, and_assoc]

theorem mem_synsetMembers (db : Db) (synset : Nat) (lexids : List Nat) (s : SenseData) :
    s ∈ synsetMembers db synset lexids ↔
      ∃ row ∈ db.senses, row.synset = synset ∧ row.lex ∈ lexids ∧ senseData db row = some s := by
  simp only [synsetMembers, List.mem_filterMap, mem_sortBy, List.mem_filter, Bool.and_eq_true, inLex,
    List.contains_iff_mem, beq_iff_eq, and_assoc]

theorem mem_findEntries {db : Db} {id : Option String} {forms : List String} {pos : Option String} {S : List Nat}
    {n a : Bool} {w : WordData} (hw : w ∈ findEntries db id forms pos S n a) :
    ∃ e ∈ db.entries, inLexOrAll S e.lex = true ∧ w.rowid = e.rowid ∧ w.id = e.id ∧ w.pos = e.pos ∧ w.lex = e.lex ∧
      w.forms = (sortBy (·.rank) (db.forms.filter (fun f => f.entry == e.rowid))).map (fun f => ⟨f.form, f.id, f.script, f.rowid⟩) ∧
      w.forms ≠ [] := by
  unfold findEntries at hw
  obtain ⟨e, he, hx⟩ := List.mem_filterMap.mp hw
  rw [mem_sortBy, List.mem_filter, Bool.and_eq_true] at he
  dsimp only at hx
  split at hx
  · cases hx
  · rename_i hn
    cases hx
    exact ⟨e, he.1, he.2.2, rfl, rfl, rfl, rfl, rfl, fun h => hn (by rw [List.map_eq_nil_iff.mp h]; rfl)⟩

end WnVerif.Db
