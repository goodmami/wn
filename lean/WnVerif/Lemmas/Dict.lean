/- Python dicts built by comprehension (`dictOf`): their keys are the keys of the pairs, each once. -/
import WnVerif.Model.Validate
import WnVerif.Lemmas.Lists
import WnVerif.Lemmas.InsertNew
namespace WnVerif.Validate

theorem keys_dictSet {α} (d : List (String × α)) (k : String) (v : α) :
    (dictSet d k v).map (·.1) = insertNew (d.map (·.1)) k := by
  unfold dictSet
  rw [ite_any_beq d (·.1)]
  refine keys_upsert d (·.1) k _ (k, v) (fun e => ?_) rfl
  split
  · exact (beq_iff_eq.mp ‹_›).symm
  · rfl

theorem keys_dictOf {α} (pairs : List (String × α)) :
    (dictOf pairs).map (·.1) = (pairs.map (·.1)).foldl insertNew [] :=
  keys_foldl_eq_foldl_insertNew (·.map (·.1)) (·.1) _ (fun d p => keys_dictSet d p.1 p.2) pairs []

theorem mem_keys_dictOf {α} (pairs : List (String × α)) (x : String) :
    x ∈ (dictOf pairs).map (·.1) ↔ x ∈ pairs.map (·.1) := by
  rw [keys_dictOf, mem_foldl_insertNew]
  exact or_iff_right List.not_mem_nil

theorem dictOf_nodup {α} (pairs : List (String × α)) : ((dictOf pairs).map (·.1)).Nodup := by
  rw [keys_dictOf]
  exact nodup_foldl_insertNew _ _ List.nodup_nil

theorem mem_dictSet {α} {d : List (String × α)} {k : String} {v : α} {e : String × α} :
    e ∈ dictSet d k v → e = (k, v) ∨ e ∈ d := by
  unfold dictSet
  split
  · intro h
    obtain ⟨a, ha, rfl⟩ := List.mem_map.mp h
    split
    · exact Or.inl rfl
    · exact Or.inr ha
  · exact fun h => (List.mem_append.mp h).symm.imp_left List.mem_singleton.mp

theorem mem_dictOf {α} (pairs : List (String × α)) (e : String × α) : e ∈ dictOf pairs → e ∈ pairs := by
  induction pairs using snoc_induction with
  | nil => exact id
  | snoc ps p ih =>
    rw [dictOf, foldl_snoc, List.mem_append, List.mem_singleton]
    exact fun h => (mem_dictSet h).symm.imp_left ih

theorem mem_keys_filter_map {α β} (xs : List β) (p : β → Bool) (f : β → String × α) (k : String) :
    k ∈ ((xs.filter p).map f).map (·.1) ↔ ∃ x ∈ xs, (f x).1 = k ∧ p x = true := by
  simp only [List.map_map, List.mem_map, List.mem_filter, Function.comp]
  exact ⟨fun ⟨x, ⟨hx, hp⟩, hk⟩ => ⟨x, hx, hk, hp⟩, fun ⟨x, hx, hk, hp⟩ => ⟨x, ⟨hx, hp⟩, hk⟩⟩

/-- for a check written `{key(x): ctx(x) for x in xs if p(x)}`; `P` is the condition read as a proposition -/
theorem mem_keys_check {α β} {xs : List β} {p : β → Bool} {f : β → String × α} {P : β → Prop} {k : String}
    (hp : ∀ x, p x = true ↔ P x) :
    k ∈ (dictOf ((xs.filter p).map f)).map (·.1) ↔ ∃ x ∈ xs, (f x).1 = k ∧ P x := by
  simp only [mem_keys_dictOf, mem_keys_filter_map, hp]

end WnVerif.Validate
