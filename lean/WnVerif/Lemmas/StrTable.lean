/-
Deciding facts about tables of string literals by kernel evaluation.

The kernel has no primitive for strings: a literal is `String.ofList` of its characters, a string is
its UTF-8 byte array, and `String.decEq` compares the byte lists.  Building the byte array of a
literal is quadratic in its length (`Array.push` is `List.concat`), and every comparison of two
strings, however early it fails, walks through `String.decEq`, `List.hasDecEq` and the equality of
`UInt8`, `BitVec`, `Fin` and `Nat`.  A natural number, on the other hand, is a value the kernel
computes once and compares in one step.  So a search through a table compares the strings' byte
arrays read as numbers, and compares the strings themselves only where the numbers agree: what is
proved is the same for any `f`, so nothing need be known about `code`.
-/
namespace WnVerif.StrTable

def code (s : String) : Nat := s.toByteArray.data.toList.foldl (fun n b => n * 256 + b.toNat) 0

/-- `x ∈ l`, looking at `f` first -/
def memBy {α} [BEq α] (f : α → Nat) (x : α) (l : List α) : Bool := l.any fun y => (f y).beq (f x) && y == x

theorem memBy_iff {α} [BEq α] [LawfulBEq α] {f : α → Nat} {x : α} {l : List α} : memBy f x l = true ↔ x ∈ l := by
  simp only [memBy, List.any_eq_true, Bool.and_eq_true, beq_iff_eq]
  exact ⟨fun ⟨_, h, _, e⟩ => e ▸ h, fun h => ⟨x, h, Nat.beq_refl _, rfl⟩⟩

/-- no two members of `l` have the same `f` -/
def nodupBy {α} (f : α → Nat) : List α → Bool
  | [] => true
  | a :: l => !(l.any fun b => (f b).beq (f a)) && nodupBy f l

theorem nodupBy_sound {α} {f : α → Nat} : ∀ {l : List α}, nodupBy f l = true → l.Nodup
  | [], _ => List.nodup_nil
  | a :: l, h => by
    simp only [nodupBy, Bool.and_eq_true, Bool.not_eq_true', List.any_eq_false] at h
    exact List.nodup_cons.mpr ⟨fun ha => h.1 a ha (Nat.beq_refl _), nodupBy_sound h.2⟩

end WnVerif.StrTable
