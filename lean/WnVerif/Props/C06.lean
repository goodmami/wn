/-
C06 — a failed add or remove leaves the database exactly as it was.
The theorems are about the transaction bracket of `Model/Txn.lean`, over any type of states `σ` and
any statements `σ → Option σ`: no lemma takes the statements from `Model/Add.lean` or
`Model/Remove.lean`.  `C06_add_fails_closed` alone speaks of the add model, and only of the wrapper
that keeps the old database when it raises.  SQLite's rollback and Python's `with conn:` are trusted
and exercised by the fault-enumeration correspondence.
-/
import WnVerif.Model.Txn
import WnVerif.Model.Add
namespace WnVerif.Props.C06
open WnVerif.Txn

variable {σ : Type}

/-- statements that cannot fail -/
def lift (body : List (σ → σ)) : List (σ → Option σ) := body.map (fun g s => some (g s))

theorem bracket_eq (c : Conn σ) (body : List (σ → Option σ)) :
    bracket c body =
      match body.foldlM (fun s f => f s) (c.working.getD c.committed) with
      | some s => (⟨s, none⟩, true)
      | none => (⟨c.committed, none⟩, false) := by
  unfold bracket
  induction body generalizing c with
  | nil => rfl
  | cons f rest ih =>
    rw [List.foldlM_cons, bracket.go, step]
    cases f (c.working.getD c.committed) with
    | none => rfl
    | some s => exact ih _

theorem foldlM_lift (body : List (σ → σ)) (s : σ) :
    (lift body).foldlM (fun s f => f s) s = some (body.foldl (fun s g => g s) s) := by
  induction body generalizing s with
  | nil => rfl
  | cons g rest ih => exact ih (g s)

theorem bracket_fail (c : Conn σ) (body : List (σ → Option σ)) (hfail : (bracket c body).2 = false) :
    bracket c body = (⟨c.committed, none⟩, false) := by
  rw [bracket_eq] at hfail ⊢
  generalize body.foldlM (fun s f => f s) (c.working.getD c.committed) = o at hfail ⊢
  cases o with
  | none => rfl
  | some s => cases hfail

/-- if any statement of the bracket fails — at whatever position — the
committed state is exactly what it was before the operation, and no transaction stays open -/
theorem C06_atomic (c : Conn σ) (body : List (σ → Option σ)) (hfail : (bracket c body).2 = false) :
    (bracket c body).1.committed = c.committed ∧ (bracket c body).1.working = none := by
  rw [bracket_fail c body hfail]
  exact ⟨rfl, rfl⟩

theorem bracket_fails_at {c : Conn σ} {pre : List (σ → Option σ)} {bad : σ → Option σ} {post : List (σ → Option σ)}
    {s : σ} (hpre : pre.foldlM (fun s f => f s) (c.working.getD c.committed) = some s) (hbad : bad s = none) :
    (bracket c (pre ++ bad :: post)).2 = false := by
  rw [bracket_eq, List.foldlM_append, hpre, Option.bind_eq_bind, Option.bind_some, List.foldlM_cons, hbad]
  rfl

/-- a statement that raises after statements that cannot fail fails the bracket, wherever it stands
and whatever follows -/
theorem C06_fail_at_any_point (c : Conn σ) (pre : List (σ → σ)) (post : List (σ → Option σ)) :
    (bracket c (pre.map (fun g s => some (g s)) ++ [fun _ => none] ++ post)).2 = false := by
  rw [List.append_assoc]
  exact bracket_fails_at (foldlM_lift pre _) rfl

/-- after a failure the connection is clean, so a following operation behaves
exactly as on the original state -/
theorem C06_usable (c : Conn σ) (hc : c.working = none) (bad good : List (σ → Option σ))
    (hfail : (bracket c bad).2 = false) : bracket (bracket c bad).1 good = bracket c good := by
  rw [bracket_fail c bad hfail]
  cases c
  cases hc
  rfl

/-- a successful bracket commits the composition of its statements -/
theorem C06_success (c : Conn σ) (hc : c.working = none) (body : List (σ → σ)) :
    bracket c (lift body) = (⟨body.foldl (fun s g => g s) c.committed, none⟩, true) := by
  rw [bracket_eq, foldlM_lift, hc]
  rfl

/-- whenever the add model raises, the observable database is the old one.  This holds by the
definition of `addResourceOrKeep`, which the proof unfolds; when the add model raises is not
looked at. -/
theorem C06_add_fails_closed (norm : String → String) (rank : Nat) (db : Db.Db) (r : Doc.Resource)
    (h : (Db.addResourceOrKeep norm rank db r).2 = false) : (Db.addResourceOrKeep norm rank db r).1 = db := by
  unfold Db.addResourceOrKeep at h ⊢
  generalize Db.addResource norm rank db r = o at h ⊢
  cases o with
  | ok db' => cases h
  | error _ => rfl

/-- a statement stream with a COMMIT between two writes is two units, a write outside any
transaction is rejected -/
theorem C06_trace_example :
    countUnits [.begin_, .write, .write, .commit] false false 0 = some 1 ∧
    countUnits [.begin_, .write, .commit, .begin_, .write, .commit] false false 0 = some 2 ∧
    countUnits [.other, .write] false false 0 = none ∧
    countUnits [.begin_, .write, .rollback, .other] false false 0 = some 1 := by
  decide

/-- if a stream that starts outside a transaction is accepted, then some BEGIN occurs before each of
its writes.  The statement says no more than that: that no COMMIT or ROLLBACK lies between that
BEGIN and the write is what `countUnits` computes (a write while `inTx` is false gives `none`). -/
theorem C06_trace_writes_in_tx : ∀ (ks : List Kind) (inTx wrote : Bool) (n m : Nat),
    countUnits ks inTx wrote n = some m → inTx = false → ∀ pre post, ks = pre ++ Kind.write :: post →
      Kind.begin_ ∈ pre := by
  intro ks inTx wrote n m hc hin pre post hks
  subst hin hks
  induction pre generalizing wrote n with
  | nil => simp [countUnits] at hc
  | cons p pre ih =>
    cases p with
    | begin_ => exact List.mem_cons_self
    | write => simp [countUnits] at hc
    | commit | rollback | other => exact List.mem_cons_of_mem _ (ih _ _ hc)

theorem brackets_success (done : List (List (σ → σ))) :
    ∀ (c : Conn σ), c.working = none →
      (brackets c (done.map lift)).1.committed = done.foldl (fun s body => body.foldl (fun s g => g s) s) c.committed ∧
      (brackets c (done.map lift)).1.working = none ∧ (brackets c (done.map lift)).2 = true := by
  induction done with
  | nil => intro c hc; exact ⟨rfl, hc, rfl⟩
  | cons b rest ih =>
    intro c hc
    rw [List.map_cons, brackets, C06_success c hc b]
    exact ih ⟨_, none⟩ rfl

theorem brackets_append (xs ys : List (List (σ → Option σ))) :
    ∀ (c : Conn σ), brackets c (xs ++ ys) =
      if (brackets c xs).2 then brackets (brackets c xs).1 ys else brackets c xs := by
  induction xs with
  | nil => intro c; rfl
  | cons b rest ih =>
    intro c
    simp only [List.cons_append, brackets]
    split
    · exact ih _
    · rfl

theorem brackets_interrupted (c : Conn σ) (done : List (List (σ → Option σ))) (bad : List (σ → Option σ))
    (later : List (List (σ → Option σ))) (hdone : (brackets c done).2 = true)
    (hfail : (bracket (brackets c done).1 bad).2 = false) :
    brackets c (done ++ bad :: later) = (⟨(brackets c done).1.committed, none⟩, false) := by
  rw [brackets_append, if_pos hdone, brackets, if_neg (ne_true_of_eq_false hfail), bracket_fail _ bad hfail]

/-- `remove` deletes the matched lexicons one transaction each.  If the deletion of the `k`-th one is
interrupted at any statement, the lexicons before it are gone (their transactions were committed),
the `k`-th lexicon and its extensions are exactly as they were, the later ones are not touched, and
no transaction stays open.  `done` are the bodies of the transactions that went through, `bad` is
the interrupted one. -/
theorem C06_interrupted_remove (c : Conn σ) (hc : c.working = none) (done : List (List (σ → σ)))
    (bad : List (σ → Option σ)) (later : List (List (σ → Option σ)))
    (hfail : (bracket (brackets c (done.map lift)).1 bad).2 = false) :
    let r := brackets c (done.map lift ++ [bad] ++ later)
    r.1.committed = done.foldl (fun s body => body.foldl (fun s g => g s) s) c.committed ∧
    r.1.working = none ∧ r.2 = false := by
  obtain ⟨s1, -, s3⟩ := brackets_success done c hc
  rw [List.append_assoc, List.singleton_append, brackets_interrupted _ _ _ _ s3 hfail]
  exact ⟨s1, rfl, rfl⟩

/-- non-vacuity: three lexicons, the second removal fails at its second statement -/
example : (brackets (σ := List Nat) ⟨[1, 2, 3], none⟩
    [[fun s => some (s.erase 1)], [fun s => some (s.erase 2), fun _ => none], [fun s => some (s.erase 3)]]).1.committed = [2, 3] := by
  decide

end WnVerif.Props.C06
