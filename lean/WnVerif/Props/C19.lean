/-
C19 — loading an ILI index only updates ILI status and definitions.
Theorems over `addIli` (`Model/Remove.lean`, mirroring `_add.py:_add_ili`) for every database
and every list of index rows (duplicates allowed: the last row for an id wins).
-/
import WnVerif.Model.Query
import WnVerif.Model.Add
import WnVerif.Lemmas.Lists
import WnVerif.Lemmas.InsertNew
import WnVerif.Lemmas.DbAux
import WnVerif.Lemmas.AddSteps
namespace WnVerif.Props.C19
open WnVerif.Db

/-- every table other than `ilis` and `ili_statuses` -/
def Same (a b : Db) : Prop :=
  a.lexicons = b.lexicons ∧ a.deps = b.deps ∧ a.exts = b.exts ∧ a.entries = b.entries ∧ a.forms = b.forms ∧
  a.prons = b.prons ∧ a.tags = b.tags ∧ a.synsets = b.synsets ∧ a.synrels = b.synrels ∧ a.defs = b.defs ∧
  a.synexs = b.synexs ∧ a.senses = b.senses ∧ a.senserels = b.senserels ∧ a.sensesynrels = b.sensesynrels ∧
  a.adjs = b.adjs ∧ a.sensexs = b.sensexs ∧ a.counts = b.counts ∧ a.sbs = b.sbs ∧ a.sbsenses = b.sbsenses ∧
  a.pilis = b.pilis ∧ a.reltypes = b.reltypes ∧ a.lexfiles = b.lexfiles

/-- the last row of the file for an id -/
def lastMatch (rows : List IliRow) (id : String) : Option IliRow :=
  rows.foldl (fun acc r => if r.ili == id then some r else acc) none

/-- the status rowid an index row is stored with: that of its status name, `active` when it gives none.  The default `0`
is the model's (`Model/Remove.lean`) and is never taken: `addIliStatuses` has put every status name of the file into the
table before the rows are read (shown inside `C19_idempotent`). -/
def stOf (sts : List (Nat × String)) (r : IliRow) : Nat := (lookupId sts (r.status.getD "active")).getD 0

theorem lastMatch_snoc (rows : List IliRow) (r : IliRow) (id : String) :
    lastMatch (rows ++ [r]) id = if r.ili == id then some r else lastMatch rows id :=
  foldl_snoc _ _ _ _

theorem lastMatch_eq_find? (rows : List IliRow) (id : String) :
    lastMatch rows id = rows.reverse.find? (·.ili == id) := by
  induction rows using snoc_induction with
  | nil => rfl
  | snoc init r ih =>
    rw [lastMatch_snoc, ih, List.reverse_append, List.reverse_singleton, List.singleton_append, List.find?_cons]
    cases r.ili == id <;> rfl

theorem lastMatch_ne_none (rows : List IliRow) (id : String) (h : id ∈ rows.map (·.ili)) : lastMatch rows id ≠ none := by
  obtain ⟨r, hr, rfl⟩ := List.mem_map.mp h
  rw [lastMatch_eq_find?, Ne, List.find?_eq_none]
  exact fun hn => hn r (List.mem_reverse.mpr hr) (beq_self_eq_true _)

theorem lastMatch_some (rows : List IliRow) (id : String) (r : IliRow) (h : lastMatch rows id = some r) :
    r ∈ rows ∧ r.ili = id := by
  rw [lastMatch_eq_find?] at h
  exact ⟨List.mem_reverse.mp (List.mem_of_find?_eq_some h), beq_iff_eq.mp (List.find?_some h :)⟩

/-- the `DO UPDATE SET status_rowid, definition` of an index row, on one row of `ilis` -/
def upd (sts : List (Nat × String)) (r : IliRow) (x : RIli) : RIli :=
  if x.id == r.ili then { x with status := stOf sts r, definition := r.definition } else x

theorem upd_id (sts : List (Nat × String)) (r : IliRow) (x : RIli) : (upd sts r x).id = x.id := by
  unfold upd; split <;> rfl

theorem iliStep_eq (db : Db) (r : IliRow) :
    iliStep db r =
      { db with
        ilis :=
          if r.ili ∈ db.ilis.map (·.id) then db.ilis.map (upd db.ilistatuses r)
          else db.ilis ++ [⟨nextId (db.ilis.map (·.rowid)), r.ili, stOf db.ilistatuses r, r.definition, none⟩] } := by
  unfold iliStep
  rw [ite_any_beq db.ilis (·.id)]
  split <;> rfl

theorem iliStep_ids (db : Db) (r : IliRow) :
    (iliStep db r).ilis.map (·.id) = insertNew (db.ilis.map (·.id)) r.ili := by
  rw [iliStep_eq]
  exact keys_upsert db.ilis (·.id) r.ili _ _ (upd_id _ r) rfl

theorem foldl_iliStep_frame (rows : List IliRow) : ∀ db : Db,
    rows.foldl iliStep db = { db with ilis := (rows.foldl iliStep db).ilis } := by
  induction rows with
  | nil => exact fun db => rfl
  | cons r t ih =>
    intro db
    rw [List.foldl_cons, ih (iliStep db r), iliStep_eq]

theorem foldl_iliStep_statuses (rows : List IliRow) (db : Db) : (rows.foldl iliStep db).ilistatuses = db.ilistatuses := by
  rw [foldl_iliStep_frame]

theorem addIli_statuses (db : Db) (rows : List IliRow) :
    (addIli db rows).ilistatuses =
      (sortedSet (rows.map fun r => r.status.getD "active")).foldl lookupInsert db.ilistatuses :=
  foldl_iliStep_statuses rows _

theorem addIli_frame (db : Db) (rows : List IliRow) :
    addIli db rows = { db with ilis := (addIli db rows).ilis, ilistatuses := (addIli db rows).ilistatuses } := by
  rw [addIli, foldl_iliStep_frame]
  rfl

/-- lexicon content, which synsets carry which ILI row, proposed ILIs, relation types and
lexfiles are all unchanged -/
theorem C19_frame (db : Db) (rows : List IliRow) : Same (addIli db rows) db := by
  rw [addIli_frame]
  simp [Same]

theorem addIli_ids (db : Db) (rows : List IliRow) :
    (addIli db rows).ilis.map (·.id) = (rows.map (·.ili)).foldl insertNew (db.ilis.map (·.id)) :=
  keys_foldl_eq_foldl_insertNew (fun d : Db => d.ilis.map (·.id)) (·.ili) iliStep iliStep_ids rows (addIliStatuses db rows)

/-- every id of the file is present afterwards (unknown ILIs are created) -/
theorem C19_listed_present (db : Db) (rows : List IliRow) (r : IliRow) (hr : r ∈ rows) :
    ∃ x ∈ (addIli db rows).ilis, x.id = r.ili := by
  refine List.mem_map.mp ?_
  rw [addIli_ids, mem_foldl_insertNew]
  exact Or.inr (List.mem_map_of_mem hr)

theorem C19_ids_unique (db : Db) (rows : List IliRow) (h : (db.ilis.map (·.id)).Nodup) :
    ((addIli db rows).ilis.map (·.id)).Nodup := by
  rw [addIli_ids]
  exact nodup_foldl_insertNew _ _ h

/-- what the file makes of a row of `ilis` -/
def applyRows (sts : List (Nat × String)) (rows : List IliRow) (x : RIli) : RIli :=
  match lastMatch rows x.id with
  | some r => { x with status := stOf sts r, definition := r.definition }
  | none => x

theorem applyRows_snoc (sts : List (Nat × String)) (rows : List IliRow) (r : IliRow) (x : RIli) :
    applyRows sts (rows ++ [r]) x = upd sts r (applyRows sts rows x) := by
  unfold applyRows upd
  rw [lastMatch_snoc]
  by_cases hm : x.id = r.ili <;> cases lastMatch rows x.id <;> simp [hm, Ne.symm]

theorem applyRows_id (sts : List (Nat × String)) (rows : List IliRow) (x : RIli) : (applyRows sts rows x).id = x.id := by
  unfold applyRows; split <;> rfl

theorem applyRows_rowid (sts : List (Nat × String)) (rows : List IliRow) (x : RIli) :
    (applyRows sts rows x).rowid = x.rowid := by
  unfold applyRows; split <;> rfl

theorem applyRows_idem (sts : List (Nat × String)) (rows : List IliRow) (x : RIli) :
    applyRows sts rows (applyRows sts rows x) = applyRows sts rows x := by
  unfold applyRows
  cases h : lastMatch rows x.id with
  | none => simp only [h]
  | some r => simp only [h]

/-- the fold of `addIli` in closed form: the old rows of `ilis`, and after them new rows for the ids
that were not there, each with the values of the last row of the file for its id -/
theorem foldl_iliStep_ilis (rows : List IliRow) (db : Db) : ∃ new : List RIli,
    (rows.foldl iliStep db).ilis = (db.ilis ++ new).map (applyRows db.ilistatuses rows) ∧
    ∀ b ∈ new, b.id ∈ rows.map (·.ili) ∧ b.id ∉ db.ilis.map (·.id) := by
  induction rows using snoc_induction with
  | nil => exact ⟨[], by rw [List.append_nil]; exact (List.map_id _).symm, fun _ h => absurd h List.not_mem_nil⟩
  | snoc init r ih =>
    obtain ⟨B, hB, hfresh⟩ := ih
    have hids : ((db.ilis ++ B).map (applyRows db.ilistatuses init)).map (·.id) = (db.ilis ++ B).map (·.id) := by
      rw [List.map_map]
      exact List.map_congr_left fun x _ => applyRows_id _ _ x
    rw [foldl_snoc, iliStep_eq, foldl_iliStep_statuses, hB, hids]
    dsimp only
    split
    · refine ⟨B, ?_, fun b hb => ⟨?_, (hfresh b hb).2⟩⟩
      · rw [List.map_map]
        exact List.map_congr_left fun x _ => (applyRows_snoc _ _ _ x).symm
      · rw [List.map_append, List.mem_append]
        exact Or.inl (hfresh b hb).1
    · rename_i hnew
      -- the status and definition given to the new row here do not matter: `upd`, applied to it last, overwrites them
      refine ⟨B ++ [⟨nextId (((db.ilis ++ B).map (applyRows db.ilistatuses init)).map (·.rowid)), r.ili, 0, none, none⟩], ?_, ?_⟩
      · rw [← List.append_assoc, List.map_append (l₁ := db.ilis ++ B), List.map_singleton]
        congr 1
        · refine List.map_congr_left fun x hx => ?_
          rw [applyRows_snoc, upd, if_neg]
          rw [applyRows_id, beq_iff_eq]
          exact fun e => hnew (e ▸ List.mem_map_of_mem hx)
        · rw [applyRows_snoc, upd, applyRows_id, if_pos (beq_self_eq_true _)]
          unfold applyRows
          split <;> rfl
      · intro b hb
        rw [List.map_append, List.mem_append]
        rcases List.mem_append.mp hb with hb | hb
        · exact ⟨Or.inl (hfresh b hb).1, (hfresh b hb).2⟩
        · rw [List.mem_singleton.mp hb]
          exact ⟨Or.inr (List.mem_singleton.mpr rfl), fun h => hnew (by rw [List.map_append]; exact List.mem_append_left _ h)⟩

theorem addIli_ilis (db : Db) (rows : List IliRow) : ∃ new : List RIli,
    (addIli db rows).ilis = (db.ilis ++ new).map (applyRows (addIli db rows).ilistatuses rows) ∧
    ∀ b ∈ new, b.id ∈ rows.map (·.ili) ∧ b.id ∉ db.ilis.map (·.id) := by
  rw [addIli_statuses]
  exact foldl_iliStep_ilis rows (addIliStatuses db rows)

/-- the ILI id a synset's `ili_rowid` resolves to does not change -/
theorem C19_links_resolve_same (db : Db) (rows : List IliRow) (k : Nat) (i : String)
    (h : iliIdOf db (some k) = some i) : iliIdOf (addIli db rows) (some k) = some i := by
  -- the old rows come first and keep rowid and id, so `find?` by rowid stops at the same row as before
  obtain ⟨B, hB, _⟩ := addIli_ilis db rows
  unfold iliIdOf at h ⊢
  dsimp only at h ⊢
  obtain ⟨x, hx, _⟩ := Option.map_eq_some_iff.mp h
  have e1 : (fun x : RIli => x.rowid == k) ∘ applyRows (addIli db rows).ilistatuses rows = fun x => x.rowid == k :=
    funext fun x => by rw [Function.comp, applyRows_rowid]
  have e2 : (fun x : RIli => x.id) ∘ applyRows (addIli db rows).ilistatuses rows = fun x => x.id :=
    funext (applyRows_id _ _)
  rw [hB, List.find?_map, Option.map_map, e1, e2, List.find?_append, hx, Option.some_or, ← hx]
  exact h

/-- after loading, every ILI listed in the file carries the status and definition of its last row -/
theorem C19_listed_updated (db : Db) (rows : List IliRow) (x : RIli) (hx : x ∈ (addIli db rows).ilis)
    (r : IliRow) (hr : lastMatch rows x.id = some r) :
    x.status = stOf (addIli db rows).ilistatuses r ∧ x.definition = r.definition := by
  obtain ⟨B, hB, _⟩ := addIli_ilis db rows
  rw [hB] at hx
  obtain ⟨y, _, rfl⟩ := List.mem_map.mp hx
  rw [applyRows_id] at hr
  unfold applyRows
  rw [hr]
  exact ⟨rfl, rfl⟩

/-- an ILI that the file does not list is left exactly as it was -/
theorem C19_unlisted_untouched (db : Db) (rows : List IliRow) (x : RIli) (hx : x ∈ (addIli db rows).ilis)
    (hr : lastMatch rows x.id = none) : x ∈ db.ilis := by
  obtain ⟨B, hB, hfresh⟩ := addIli_ilis db rows
  rw [hB] at hx
  obtain ⟨y, hy, rfl⟩ := List.mem_map.mp hx
  rw [applyRows_id] at hr
  rw [show applyRows _ rows y = y by unfold applyRows; rw [hr]]
  exact (List.mem_append.mp hy).elim id fun hb => absurd hr (lastMatch_ne_none rows y.id (hfresh y hb).1)

/-- idempotence: loading the same index file a second time changes nothing at all -/
theorem C19_idempotent (db : Db) (rows : List IliRow) : addIli (addIli db rows) rows = addIli db rows := by
  -- the status names of the file are all there: none is inserted
  have hsts : (addIli (addIli db rows) rows).ilistatuses = (addIli db rows).ilistatuses := by
    refine (addIli_statuses _ rows).trans (foldl_fixed _ _ _ fun v hv => ?_)
    rw [lookupInsert_eq, if_pos]
    rw [addIli_statuses, keys_foldl_eq_foldl_insertNew (·.map (·.2)) id lookupInsert lookupInsert_names, mem_foldl_insertNew, List.map_id]
    exact Or.inr hv
  -- every id of the file is there, so no row is new; and the old ones have the file's values already
  have hilis : (addIli (addIli db rows) rows).ilis = (addIli db rows).ilis := by
    obtain ⟨B, hB, hfresh⟩ := addIli_ilis (addIli db rows) rows
    have hnil : B = [] := List.eq_nil_iff_forall_not_mem.mpr fun b hb => by
      obtain ⟨r, hr, e⟩ := List.mem_map.mp (hfresh b hb).1
      exact (hfresh b hb).2 (e ▸ List.mem_map.mpr (C19_listed_present db rows r hr))
    obtain ⟨B0, hB0, _⟩ := addIli_ilis db rows
    rw [hB, hnil, List.append_nil, hsts, hB0, List.map_map]
    exact List.map_congr_left fun x _ => applyRows_idem _ _ x
  rw [addIli_frame (addIli db rows), hsts, hilis]

/-- the first pass of `_insert_synsets` (`INSERT OR IGNORE` of presupposed ILIs) as a function to `Db`.
`presupStep` never raises, so the `.error` branch is never taken. -/
def presupAll (presup : Nat) (ss : List Doc.Synset) (db : Db) : Db :=
  match ss.foldlM (presupStep presup) db with
  | .ok d => d
  | .error _ => db

/-- the first pass leaves `ili_statuses` alone and appends to `ilis` rows for ids that were not there -/
theorem presupAll_grows (presup : Nat) (ss : List Doc.Synset) (db : Db) :
    Appends Db.ilis Db.ilistatuses (fun _ T x => ∀ y ∈ T, y.id ≠ x.id) db (presupAll presup ss db) := by
  unfold presupAll
  cases h : ss.foldlM (presupStep presup) db with
  | error e => exact .refl db
  | ok d =>
    refine Appends.foldlM (fun _ _ _ _ hx y hy => hx y (List.mem_append_left _ hy)) (fun b s b' hs => ?_) h
    rcases presupStep_ok hs with ⟨rfl, -⟩ | ⟨hn, rfl⟩
    · exact .refl _
    · exact .one rfl rfl hn

/-- order independence (status and definition): load the index first and then the synsets that
name its ILIs, or the other way round — every ILI listed in the index ends with the same status and
the same definition, namely those of its last row in the file; and the table of status names is the
same either way.  The two rows `xa`, `xb` are tied by having the same last row `r` of the file, that
is, the same id. -/
theorem C19_order_independent (db : Db) (rows : List IliRow) (presup : Nat) (ss : List Doc.Synset)
    (xa xb : RIli) (r : IliRow)
    (ha : xa ∈ (presupAll presup ss (addIli db rows)).ilis) (hb : xb ∈ (addIli (presupAll presup ss db) rows).ilis)
    (hla : lastMatch rows xa.id = some r) (hlb : lastMatch rows xb.id = some r) :
    xa.status = xb.status ∧ xa.definition = xb.definition ∧
    (presupAll presup ss (addIli db rows)).ilistatuses = (addIli (presupAll presup ss db) rows).ilistatuses := by
  obtain ⟨hsA, eA, hA, fA⟩ := presupAll_grows presup ss (addIli db rows)
  have hstat : (addIli (presupAll presup ss db) rows).ilistatuses = (addIli db rows).ilistatuses := by
    rw [addIli_statuses, addIli_statuses, (presupAll_grows presup ss db).1]
  -- order A: the listed ILI already exists after the index, so the lexicon's first pass ignores it
  have hxa : xa ∈ (addIli db rows).ilis := by
    rw [hA] at ha
    refine (List.mem_append.mp ha).resolve_right fun ha => ?_
    obtain ⟨hr, hid⟩ := lastMatch_some rows xa.id r hla
    obtain ⟨y, hy, hyi⟩ := C19_listed_present db rows r hr
    exact fA xa ha y hy (hyi.trans hid)
  obtain ⟨a1, a2⟩ := C19_listed_updated db rows xa hxa r hla
  obtain ⟨b1, b2⟩ := C19_listed_updated (presupAll presup ss db) rows xb hb r hlb
  exact ⟨by rw [a1, b1, hstat], a2.trans b2.symm, hsA.trans hstat.symm⟩

/-! ### non-vacuity -/
def demo : Db := { ilis := [⟨1, "i1", 1, none, none⟩, ⟨2, "i2", 3, some "old", none⟩], ilistatuses := [(1, "presupposed"), (2, "proposed"), (3, "active")] }
def file : List IliRow := [⟨"i1", none, some "first"⟩, ⟨"i3", some "deprecated", none⟩, ⟨"i1", none, some "second"⟩]

example : (addIli demo file).ilis = [⟨1, "i1", 3, some "second", none⟩, ⟨2, "i2", 3, some "old", none⟩, ⟨3, "i3", 4, none, none⟩] := by decide +kernel
example : (addIli demo file).ilistatuses = [(1, "presupposed"), (2, "proposed"), (3, "active"), (4, "deprecated")] := by decide +kernel

end WnVerif.Props.C19
