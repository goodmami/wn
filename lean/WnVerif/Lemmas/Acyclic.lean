/-
Acyclic hypernym graphs: the relation paths are the chains that end in a root, and `L` (the longest
chain from a node) strictly decreases along every edge.  This is what makes the `seen` shortcut of
`taxonomy_depth` sound on such graphs (Props/C13).
-/
import WnVerif.Lemmas.Paths
namespace WnVerif.Graph

def Acyclic (g : Adj) : Prop := ∃ rk : Nat → Nat, ∀ x t, t ∈ g x → rk t < rk x

/-- length of the longest hypernym chain starting at `x` (as computed by `relation_paths`) -/
def L (g : Adj) (n : Nat) (x : Nat) : Nat := listMax ((relPaths g (n + 1) x).map List.length)

theorem chain_nodup_of_rank (g : Adj) (rk : Nat → Nat) (hrk : ∀ x t, t ∈ g x → rk t < rk x) (p : List Nat)
    (x : Nat) (hc : Chain g x p) : (x :: p).Nodup :=
  (chain_pairwise g (fun x y => rk y < rk x) hrk (fun h1 h2 => Nat.lt_trans h2 h1) p x hc).imp
    fun {a b} (h : rk b < rk a) (e : a = b) => Nat.lt_irrefl (rk a) (e ▸ h)

theorem mem_relPaths_acyclic (g : Adj) (n : Nat) (h : InRange g n) (hac : Acyclic g) (x : Nat) (p : List Nat) :
    p ∈ relPaths g (n + 1) x ↔ p ≠ [] ∧ Chain g x p ∧ g (p.getLastD x) = [] := by
  obtain ⟨rk, hrk⟩ := hac
  rw [mem_relPaths g n h]
  constructor
  · rintro ⟨hne, hc, _, _, hmax⟩
    refine ⟨hne, hc, List.eq_nil_iff_forall_not_mem.mpr fun t ht => ?_⟩
    -- a successor `t` of the last node prolongs the chain, so it is neither `x` nor on `p`
    have hnd : ((x :: p) ++ [t]).Nodup := chain_nodup_of_rank g rk hrk (p ++ [t]) x (chain_snoc g p x t hc ht)
    have htp : t ∈ x :: p := (hmax t ht).elim (fun h => List.mem_singleton.mp h ▸ List.mem_cons_self) (List.mem_cons_of_mem x)
    exact (List.nodup_append.mp hnd).2.2 t htp t (List.mem_singleton_self t) rfl
  · rintro ⟨hne, hc, hroot⟩
    obtain ⟨hx, hnd⟩ := List.nodup_cons.mp (chain_nodup_of_rank g rk hrk p x hc)
    exact ⟨hne, hc, hnd, fun y hy hv => hx (List.mem_singleton.mp hv ▸ hy),
      fun t ht => by rw [hroot] at ht; cases ht⟩

theorem cons_mem_relPaths_acyclic (g : Adj) (n : Nat) (h : InRange g n) (hac : Acyclic g) (x y : Nat) (q : List Nat) :
    y :: q ∈ relPaths g (n + 1) x ↔ y ∈ g x ∧ (q = [] ∧ g y = [] ∨ q ∈ relPaths g (n + 1) y) := by
  rw [mem_relPaths_acyclic g n h hac, mem_relPaths_acyclic g n h hac, List.getLastD_cons]
  by_cases hq : q = []
  · subst hq
    simp [Chain]
  · simp [Chain, hq, and_assoc]

theorem relPaths_ne_nil (g : Adj) (n : Nat) (h : InRange g n) (hac : Acyclic g) (x : Nat) (hne : g x ≠ []) :
    relPaths g (n + 1) x ≠ [] := by
  obtain ⟨t, ht⟩ := List.exists_mem_of_ne_nil _ hne
  obtain ⟨rk, hrk⟩ := hac
  obtain ⟨p, hp, _⟩ := reach_on_relPaths g n h (.step (.refl x) ht)
    (fun e => Nat.lt_irrefl _ (e ▸ hrk x t ht))
  exact List.ne_nil_of_mem hp

theorem length_le_L (g : Adj) (n : Nat) (x : Nat) (p : List Nat) (hp : p ∈ relPaths g (n + 1) x) : p.length ≤ L g n x :=
  le_listMax _ _ (List.mem_map.mpr ⟨p, hp, rfl⟩)

theorem L_step (g : Adj) (n : Nat) (h : InRange g n) (hac : Acyclic g) (x y : Nat) (hy : y ∈ g x) :
    1 + L g n y ≤ L g n x := by
  -- a longest chain from `y` (the empty one if `y` is a root) prolongs to a chain from `x`
  obtain ⟨q, hq, hql⟩ : ∃ q, y :: q ∈ relPaths g (n + 1) x ∧ q.length = L g n y := by
    by_cases hgy : g y = []
    · exact ⟨[], (cons_mem_relPaths_acyclic g n h hac x y []).mpr ⟨hy, Or.inl ⟨rfl, hgy⟩⟩, by simp [L, relPaths, hgy, listMax]⟩
    · obtain ⟨q, hq, hql⟩ := List.mem_map.mp (listMax_mem _ (by simpa using relPaths_ne_nil g n h hac y hgy))
      exact ⟨q, (cons_mem_relPaths_acyclic g n h hac x y q).mpr ⟨hy, Or.inr hq⟩, hql⟩
  have := length_le_L g n x _ hq
  rw [List.length_cons, hql] at this
  omega

theorem L_on_path (g : Adj) (n : Nat) (h : InRange g n) (hac : Acyclic g) (p : List Nat) (x : Nat)
    (hc : Chain g x p) : ∀ y ∈ p, 1 + L g n y ≤ L g n x :=
  (List.pairwise_cons.mp (chain_pairwise g (fun x y => 1 + L g n y ≤ L g n x) (L_step g n h hac)
    (fun h1 h2 => Nat.le_trans (Nat.le_trans h2 (Nat.le_add_left _ 1)) h1) p x hc)).1

/-- the longest chain from `x` goes through one of its hypernyms -/
theorem L_le_of_hypernyms (g : Adj) (n : Nat) (h : InRange g n) (hac : Acyclic g) (x d : Nat)
    (hd : ∀ y ∈ g x, 1 + L g n y ≤ d) : L g n x ≤ d := by
  by_cases hemp : relPaths g (n + 1) x = []
  · unfold L; rw [hemp]; exact Nat.zero_le _
  · obtain ⟨p, hp, hpl⟩ : ∃ p ∈ relPaths g (n + 1) x, p.length = L g n x :=
      List.mem_map.mp (listMax_mem _ (by simpa using hemp))
    cases p with
    | nil => exact absurd rfl ((mem_relPaths_acyclic g n h hac x []).mp hp).1
    | cons y q =>
      obtain ⟨hy, hq⟩ := (cons_mem_relPaths_acyclic g n h hac x y q).mp hp
      have hql : q.length ≤ L g n y := hq.elim (fun e => e.1 ▸ Nat.zero_le _) (length_le_L g n y q)
      have := hd y hy
      rw [List.length_cons] at hpl
      omega

end WnVerif.Graph
