/-
C10 — navigation between words, senses and synsets is referentially faithful; translation
goes through the ILI exactly.  Theorems over `Model/Api.lean` for every database.
-/
import WnVerif.Model.Api
import WnVerif.Lemmas.DbAux
namespace WnVerif.Props.C10
open WnVerif.Db

/-- every sense listed by `word.senses()` is a stored sense declared under that entry, owned by
a lexicon in scope -/
theorem C10_word_senses_declared (db : Db) (w : Wordnet) (x : WordData) (s : SenseData)
    (h : s ∈ wordSenses db w x) :
    ∃ row ∈ db.senses, row.entry = x.rowid ∧ row.lex ∈ entityLexids db w x.lex ∧ senseData db row = some s :=
  (mem_entrySenses db _ _ s).mp h

/-- conversely, every stored sense of the entry owned by a lexicon in scope is listed by `word.senses()` -/
theorem C10_sense_in_word_senses (db : Db) (w : Wordnet) (x : WordData) (row : RSense) (s : SenseData)
    (hrow : row ∈ db.senses) (he : row.entry = x.rowid) (hl : row.lex ∈ entityLexids db w x.lex)
    (hs : senseData db row = some s) : s ∈ wordSenses db w x :=
  (mem_entrySenses db _ _ s).mpr ⟨row, hrow, he, hl, hs⟩

theorem C10_synset_senses_declared (db : Db) (w : Wordnet) (x : SynsetData) (s : SenseData)
    (h : s ∈ synsetSenses db w x) :
    ∃ row ∈ db.senses, row.synset = x.rowid ∧ row.lex ∈ entityLexids db w x.lex ∧ senseData db row = some s :=
  (mem_synsetMembers db _ _ s).mp h

theorem C10_sense_in_synset_senses (db : Db) (w : Wordnet) (x : SynsetData) (row : RSense) (s : SenseData)
    (hrow : row ∈ db.senses) (he : row.synset = x.rowid) (hl : row.lex ∈ entityLexids db w x.lex)
    (hs : senseData db row = some s) : s ∈ synsetSenses db w x :=
  (mem_synsetMembers db _ _ s).mpr ⟨row, hrow, he, hl, hs⟩

/-- the observable sense carries the ids of the entry and synset rows it references -/
theorem C10_sense_data_ids (db : Db) (row : RSense) (s : SenseData) (h : senseData db row = some s) :
    s.rowid = row.rowid ∧ s.id = row.id ∧ s.lex = row.lex ∧
    (∃ e ∈ db.entries, e.rowid = row.entry ∧ e.id = s.entryId) ∧
    (∃ y ∈ db.synsets, y.rowid = row.synset ∧ y.id = s.synsetId) := by
  obtain ⟨e, y, he, hy, rfl⟩ := senseData_eq_some h
  exact ⟨rfl, rfl, rfl, ⟨e, List.mem_of_find?_eq_some he, beq_iff_eq.mp (List.find?_some he :), rfl⟩,
    ⟨y, List.mem_of_find?_eq_some hy, beq_iff_eq.mp (List.find?_some hy :), rfl⟩⟩

/-- `Sense.word()` re-queries by *id* within the Wordnet's lexicons: what it returns is an entry
with the declared id (owned by one of the Wordnet's lexicons when these are restricted) -/
theorem C10_sense_word_by_id (db : Db) (w : Wordnet) (s : SenseData) (x : WordData)
    (h : senseWord db w s = some x) (hne : s.entryId ≠ "") :
    x.id = s.entryId ∧ (w.lexids ≠ [] → x.lex ∈ w.lexids) := by
  -- `x` is the first row of `find_entries(id = s.entryId)`, made from an entry `e` that passes its filter
  obtain ⟨e, he, hx⟩ := List.mem_filterMap.mp (List.mem_of_mem_head? h)
  rw [mem_sortBy, List.mem_filter] at he
  simp only [Bool.and_eq_true] at he
  obtain ⟨-, ⟨⟨hid, -⟩, -⟩, hlex⟩ := he
  cases (Option.ite_none_left_eq_some.mp hx).2
  refine ⟨?_, fun hl => ?_⟩
  · simpa [hne] using hid
  · simpa [inLexOrAll, hl] using hlex

/-- two versions of a lexicon `a`, each with an entry `e`, a synset `s` and a sense `n` -/
def twoVersions : Db :=
  { lexicons := [⟨1, "a", "A", "en", "e", "l", "1", none, none, none, none⟩, ⟨2, "a", "A", "en", "e", "l", "2", none, none, none, none⟩]
    entries := [⟨1, "e", 1, "n", none⟩, ⟨2, "e", 2, "n", none⟩]
    forms := [⟨1, none, 1, 1, "cat", none, none, 0⟩, ⟨2, none, 2, 2, "dog", none, none, 0⟩]
    synsets := [⟨1, "s", 1, none, "n", true, none, none⟩, ⟨2, "s", 2, none, "n", true, none, none⟩]
    senses := [⟨1, "n", 1, 1, 0, 1, 0, true, none⟩, ⟨2, "n", 2, 2, 0, 2, 0, true, none⟩] }

/-- kernel-checked witness of known finding F5: with two lexicons in scope that reuse an entry
id, `sense.word()` of the second lexicon's sense is the *first* lexicon's word -/
theorem C10_sense_word_two_versions_counterexample :
    let w : Wordnet := { lexids := [1, 2], expids := [], defaultMode := false }
    (senseWord twoVersions w ⟨"n", "e", "s", 2, 2⟩).map (·.rowid) = some 1 := by decide

/-- `synset.translate()` returns exactly the synsets of the target lexicons sharing the ILI -/
theorem C10_translate_exact (db : Db) (x : SynsetData) (lexicon lang : Option String) (i : String)
    (hi : x.ili = some i) (hne : i ≠ "") (w : Wordnet) (hw : mkWordnet db lexicon lang none = some w) (y : SynsetData) :
    (∃ ys, synsetTranslate db x lexicon lang = some ys ∧ y ∈ ys) ↔
      ∃ row ∈ db.synsets, iliIdOf db row.ili = some i ∧ inLexOrAll w.lexids row.lex = true ∧ y = synsetData db row := by
  have hne' : (i == "") = false := by simpa using hne
  simp only [synsetTranslate, hi, hw, Option.map_some, hne', Bool.false_eq_true, if_false, Option.some.injEq,
    exists_eq_left', findSynsets, List.isEmpty_nil, if_true, List.mem_map, List.mem_filter, Bool.and_eq_true,
    Bool.true_and]
  refine ⟨fun ⟨row, ⟨hrow, hok, hl⟩, e⟩ => ⟨row, hrow, ?_, hl, e.symm⟩,
    fun ⟨row, hrow, hili, hl, e⟩ => ⟨row, ⟨hrow, ?_, hl⟩, e.symm⟩⟩
  · cases hj : iliIdOf db row.ili with
    | none => simp [hj] at hok
    | some j => simpa [hj] using hok
  · simp [hili]

/-- a synset without an ILI (or with only a proposed one: its `ili` is `none`) translates to nothing -/
theorem C10_translate_no_ili (db : Db) (x : SynsetData) (lexicon lang : Option String) (h : x.ili = none) :
    synsetTranslate db x lexicon lang = some [] := by
  unfold synsetTranslate; rw [h]

/-- every translation carries the same ILI as the synset translated, a real one -/
theorem C10_translate_same_ili (db : Db) (x : SynsetData) (lexicon lang : Option String) (ys : List SynsetData)
    (h : synsetTranslate db x lexicon lang = some ys) (y : SynsetData) (hy : y ∈ ys) :
    ∃ i, i ≠ "" ∧ x.ili = some i ∧ y.ili = some i := by
  cases hi : x.ili with
  | none =>
    rw [C10_translate_no_ili db x lexicon lang hi] at h
    cases h; cases hy
  | some i =>
    by_cases hne : i = ""
    · simp [synsetTranslate, hi, hne] at h
      cases h; cases hy
    · cases hw : mkWordnet db lexicon lang none with
      | none => simp [synsetTranslate, hi, hne, hw] at h
      | some w =>
        obtain ⟨row, _, hili, _, rfl⟩ := (C10_translate_exact db x lexicon lang i hi hne w hw y).mp ⟨ys, h, hy⟩
        exact ⟨i, hne, rfl, hili⟩

/-- translation is symmetric: if `y` (of lexicon selection `T`) is a translation of `x`, and `x` is the
observation of a stored synset of selection `S`, then `x` is a translation of `y` into `S` -/
theorem C10_translate_symmetric (db : Db) (x y : SynsetData) (lexT langT lexS langS : Option String)
    (ys : List SynsetData) (h : synsetTranslate db x lexT langT = some ys) (hy : y ∈ ys)
    (wS : Wordnet) (hwS : mkWordnet db lexS langS none = some wS)
    (xrow : RSynset) (hx : xrow ∈ db.synsets) (hxd : x = synsetData db xrow) (hxl : inLexOrAll wS.lexids xrow.lex = true) :
    ∃ xs, synsetTranslate db y lexS langS = some xs ∧ x ∈ xs := by
  obtain ⟨i, hne, hxi, hyi⟩ := C10_translate_same_ili db x lexT langT ys h y hy
  subst hxd
  exact (C10_translate_exact db y lexS langS i hyi hne wS hwS _).mpr ⟨xrow, hx, hxi, hxl, rfl⟩

end WnVerif.Props.C10
