/-
The worklist search with a global visited set, once for every node type, identity key and
agenda discipline: `_Relatable.closure` (`Db.closureGen`: entities identified by a key, queue)
and the ancestor walk of `ic.compute` (`Graph.walkGen`: numbered nodes, any agenda) are both
`run`.  What holds at the end is what its two steps keep (`run_inv`): the visited nodes lie in
every successor-closed set around the agenda, no key is visited twice, and the start nodes and the
successors of visited nodes are visited or still on the agenda (`Front`), so that an empty agenda
leaves a successor-closed set.  The agenda does become empty within a fuel that the unvisited keys
and their out-degrees bound (`run_done`).
-/
import WnVerif.Lemmas.Lists
namespace WnVerif.Worklist

universe u v
variable {α : Type u} {κ : Type v} [BEq κ]
  (push : List α → List α → List α) (related : α → List α) (key : α → κ)

/-- agenda and visited nodes (latest first) after at most `f` pops -/
def run : Nat → List α → List α → List α × List α
  | 0, q, acc => (q, acc)
  | _+1, [], acc => ([], acc)
  | f+1, x :: q, acc =>
    if (acc.map key).contains (key x) then run f q acc
    else run f (push q (related x)) (x :: acc)

theorem run_inv (I : List α → List α → Prop)
    (hskip : ∀ x q acc, (acc.map key).contains (key x) = true → I (x :: q) acc → I q acc)
    (hvisit : ∀ x q acc, ¬(acc.map key).contains (key x) = true → I (x :: q) acc →
      I (push q (related x)) (x :: acc)) :
    ∀ f q acc, I q acc → I (run push related key f q acc).1 (run push related key f q acc).2 := by
  intro f q acc
  fun_induction run push related key f q acc with
  | case1 | case2 => exact id
  | case3 f x q acc hx ih => exact fun h => ih (hskip x q acc hx h)
  | case4 f x q acc hx ih => exact fun h => ih (hvisit x q acc hx h)

theorem run_nodup [LawfulBEq κ] (f : Nat) (q acc : List α) (h : (acc.map key).Nodup) :
    ((run push related key f q acc).2.map key).Nodup :=
  run_inv push related key (fun _ acc => (acc.map key).Nodup) (fun _ _ _ _ h => h)
    (fun x q acc hx h => List.nodup_cons.mpr ⟨by simpa using hx, h⟩) f q acc h

variable (hpush : ∀ q new v, v ∈ push q new ↔ v ∈ q ∨ v ∈ new)
include hpush

theorem run_sound (P : α → Prop) (hP : ∀ x, P x → ∀ y ∈ related x, P y) (f : Nat) (q acc : List α)
    (hq : ∀ x ∈ q, P x) : ∀ y ∈ (run push related key f q acc).2, y ∈ acc ∨ P y := by
  refine (run_inv push related key (fun q acc' => (∀ x ∈ q, P x) ∧ ∀ y ∈ acc', y ∈ acc ∨ P y)
    ?_ ?_ f q acc ⟨hq, fun _ hy => Or.inl hy⟩).2
  · intro x q acc' _ h
    exact ⟨fun y hy => h.1 y (List.mem_cons_of_mem _ hy), h.2⟩
  · intro x q acc' _ h
    have hx : P x := h.1 x List.mem_cons_self
    refine ⟨fun z hz => ?_, List.forall_mem_cons.mpr ⟨Or.inr hx, h.2⟩⟩
    rcases (hpush _ _ _).mp hz with hz | hz
    · exact h.1 z (List.mem_cons_of_mem _ hz)
    · exact hP x hx z hz

def Front (start q acc : List α) : Prop :=
  ∀ y, (y ∈ start ∨ ∃ x ∈ acc, y ∈ related x) → key y ∈ acc.map key ∨ y ∈ q

theorem run_front [LawfulBEq κ] (start : List α) : ∀ f q acc, Front related key start q acc →
    Front related key start (run push related key f q acc).1 (run push related key f q acc).2 := by
  refine run_inv push related key (Front related key start) (fun x q acc hx h y hy => ?_)
    (fun x q acc _ h y hy => ?_)
  · rcases h y hy with h | h
    · exact Or.inl h
    · rcases List.mem_cons.mp h with rfl | h
      · exact Or.inl (by simpa using hx)
      · exact Or.inr h
  · have old (hy : y ∈ start ∨ ∃ x ∈ acc, y ∈ related x) :
        key y ∈ (x :: acc).map key ∨ y ∈ push q (related x) := by
      rcases h y hy with h | h
      · exact Or.inl (List.mem_cons_of_mem _ h)
      · rcases List.mem_cons.mp h with rfl | h
        · exact Or.inl List.mem_cons_self
        · exact Or.inr ((hpush _ _ _).mpr (Or.inl h))
    rcases hy with hs | ⟨x', hx', hy⟩
    · exact old (Or.inl hs)
    · rcases List.mem_cons.mp hx' with rfl | hx'
      · exact Or.inr ((hpush _ _ _).mpr (Or.inr hy))
      · exact old (Or.inr ⟨x', hx', hy⟩)

theorem run_closed [LawfulBEq κ] (start : List α) (f : Nat)
    (hdone : (run push related key f start []).1 = []) (y : α)
    (hy : y ∈ start ∨ ∃ x ∈ (run push related key f start []).2, y ∈ related x) :
    key y ∈ (run push related key f start []).2.map key := by
  have := run_front push related key hpush start f start []
    (fun y hy => hy.elim Or.inr (fun ⟨_, hx, _⟩ => nomatch hx)) y hy
  rw [hdone] at this
  exact this.resolve_right List.not_mem_nil

/-- every pop takes one entry off the agenda, and a visit, which happens once for each key, puts at
most `w` of that key back; so the agenda is empty once the fuel covers its length and `w k` for
every key `k` not yet visited.  `todo` has to hold the unvisited keys of the agenda and of the
successors of every node, reachable or not. -/
theorem run_done [LawfulBEq κ] (hlen : ∀ q new, (push q new).length = q.length + new.length) (w : κ → Nat)
    (hw : ∀ x, (related x).length ≤ w (key x)) :
    ∀ f q acc (todo : List κ),
      (∀ y, (y ∈ q ∨ ∃ x, y ∈ related x) → key y ∈ acc.map key ∨ key y ∈ todo) →
      q.length + (todo.map w).sum ≤ f → (run push related key f q acc).1 = [] := by
  intro f q acc
  fun_induction run push related key f q acc with
  | case1 q acc =>
    -- no fuel left: the bound says that the agenda is empty already
    intro todo _ hf
    exact List.eq_nil_of_length_eq_zero (Nat.le_zero.mp (Nat.le_trans (Nat.le_add_right _ _) hf))
  | case2 => exact fun _ _ _ => rfl
  | case3 f x q acc _ ih =>
    intro todo hc hf
    refine ih todo (fun y hy => hc y (hy.imp_left (List.mem_cons_of_mem _))) ?_
    simp only [List.length_cons] at hf
    omega
  | case4 f x q acc hx ih =>
    intro todo hc hf
    have hxt : key x ∈ todo := (hc x (Or.inl List.mem_cons_self)).resolve_left (by simpa using hx)
    apply ih (todo.erase (key x))
    · intro y hy
      have hy' : y ∈ x :: q ∨ ∃ x, y ∈ related x :=
        hy.elim (fun h => ((hpush _ _ _).mp h).imp (List.mem_cons_of_mem _) (fun h => ⟨x, h⟩)) Or.inr
      by_cases e : key y = key x
      · exact Or.inl (e ▸ List.mem_cons_self)
      · exact (hc y hy').imp (List.mem_cons_of_mem _) (List.mem_erase_of_ne e).mpr
    · -- the successors pushed are paid by `w (key x)`, which leaves `todo` with `key x`
      have := sum_map_erase w hxt
      have := hw x
      rw [hlen]
      simp only [List.length_cons] at hf
      omega

end WnVerif.Worklist
