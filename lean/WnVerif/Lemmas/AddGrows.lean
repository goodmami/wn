/- What one `addLexicon` appends, table by table: `Grows db db' k b`.  Every table it speaks of (all but
`lexicon_dependencies`, `lexicon_extensions` and `lexfiles`) has only grown; a new row is owned by the new lexicon `k`
(where the table has an owner column), has (where the table has rowids that others refer to) a rowid that no old row
has, and hangs, by the one reference the field names (a form by its entry, a sense by its synset, a pronunciation or
tag by its form, …), on a row of `k` or, in an extension, of its base `b`.  Where the owner is all that is said, the
field is read off the table theorem of `Lemmas/AddTables`; new rowids and parent rows come from the pass itself
(`insert*_grows`, by `Appends.foldlM`). -/
import WnVerif.Lemmas.AddTables
namespace WnVerif.Db
open WnVerif WnVerif.Doc

theorem GrowsBy.filter {ρ} {P : ρ → Prop} {T T' : List ρ} (g : GrowsBy P T T') {lex : ρ → Nat} {k : Nat}
    (hl : ∀ r, P r → lex r = k) {S : List Nat} (hk : k ∉ S) (p : ρ → Bool) :
    T'.filter (fun r => p r && inLex S (lex r)) = T.filter (fun r => p r && inLex S (lex r)) := by
  obtain ⟨rows, rfl, hp⟩ := g
  exact filter_append_right_nil (fun r hr => by rw [hl r (hp r hr), inLex_outside hk, Bool.and_false]) _

theorem GrowsBy.any {ρ} {P : ρ → Prop} {T T' : List ρ} (g : GrowsBy P T T') {lex : ρ → Nat} {k : Nat}
    (hl : ∀ r, P r → lex r = k) {S : List Nat} (hk : k ∉ S) (p : ρ → Bool) :
    T'.any (fun r => p r && inLex S (lex r)) = T.any (fun r => p r && inLex S (lex r)) := by
  obtain ⟨rows, rfl, hp⟩ := g
  exact any_append_right_false (fun r hr => by rw [hl r (hp r hr), inLex_outside hk, Bool.and_false]) _

theorem GrowsBy.find? {ρ} {P : ρ → Prop} {T T' : List ρ} (g : GrowsBy P T T') {key : ρ → Nat} {x : Nat}
    (hx : x ∈ T.map key) : T'.find? (fun r => key r == x) = T.find? (fun r => key r == x) := by
  obtain ⟨rows, rfl, -⟩ := g
  exact find?_append_of_mem hx rows

theorem GrowsBy.filter_restores {ρ} {P : ρ → Prop} {T T' : List ρ} (g : GrowsBy P T T') {gone : ρ → Bool}
    (hold : ∀ o ∈ T, gone o = false) (hnew : ∀ r, P r → gone r = true) : T'.filter (fun r => !gone r) = T := by
  obtain ⟨rows, rfl, hp⟩ := g
  rw [filter_append_right_nil fun r hr => by rw [hnew r (hp r hr)]; rfl, List.filter_eq_self.mpr fun o ho => by rw [hold o ho]; rfl]

/-- for a table others refer to: besides being restored, none of its old rowids is among those deleted (the form in
which `Model/Remove.lean` passes a deletion on to the referring tables: `entriesDel`, `synsetsDel`, …) -/
theorem GrowsBy.filter_restores_keyed {ρ} {P : ρ → Prop} {T T' : List ρ} (g : GrowsBy P T T') {rowid : ρ → Nat}
    {gone : ρ → Bool} (hold : ∀ o ∈ T, gone o = false) (hnew : ∀ r, P r → gone r = true ∧ rowid r ∉ T.map rowid) :
    T'.filter (fun r => !gone r) = T ∧ ∀ k, (∃ o ∈ T, rowid o = k) → ((T'.filter gone).map rowid).contains k = false := by
  refine ⟨g.filter_restores hold fun r hr => (hnew r hr).1, ?_⟩
  obtain ⟨rows, rfl, hp⟩ := g
  rintro _ ⟨o, ho, rfl⟩
  refine not_mem_gone_keys_iff.mpr fun p hpm hpo => ?_
  rcases List.mem_append.mp hpm with hpm | hpm
  · exact hold p hpm
  · exact absurd (hpo ▸ List.mem_map_of_mem ho) (hnew p (hp p hpm)).2

theorem GrowsBy.of_table {α ρ} {R : α → ρ → Prop} {P : ρ → Prop} {T T' : List ρ} {l : List α}
    (h : ∃ rows, T' = T ++ rows ∧ Forall2 R l rows) (hP : ∀ a r, R a r → P r) : GrowsBy P T T' :=
  let ⟨rows, e, f⟩ := h
  ⟨rows, e, f.forall_right hP⟩

/-- a `forms` row of lexicon `k`, on an entry of `E` that belongs to `k` or to the lexicon `b` it extends -/
def NewFormRow (k b : Nat) (E : List REntry) (F : List RForm) (r : RForm) : Prop :=
  OwnedNew RForm.lex RForm.rowid k F r ∧ ∃ x ∈ E, (x.lex = k ∨ x.lex = b) ∧ x.rowid = r.entry

/-- the rowid of a form of `F` on an entry of `E` that belongs to `k` or `b`: what a new `pronunciations` or `tags` row carries -/
def NewFormRef (k b : Nat) (E : List REntry) (F : List RForm) (x : Nat) : Prop :=
  ∃ f ∈ F, (∃ e ∈ E, (e.lex = k ∨ e.lex = b) ∧ e.rowid = f.entry) ∧ f.rowid = x

/-- `db'` is `db` after the rows of one more lexicon were written, stored under the new rowid `k`, an extension
of the lexicon `b` (`b = k`: not an extension).  An extension hangs forms also on the external entries of its base
(finding F13), senses and adjective positions on the external synsets and senses of its base, and hence pronunciations
and tags, which have no owner column, on forms of entries of its base (finding F12).  Of a new sense only the synset
is said to be one of `k` or `b`, not the entry. -/
structure Grows (db db' : Db) (k b : Nat) : Prop where
  new : k ∉ db.lexicons.map RLexicon.rowid
  lexicons : GrowsBy (fun r => r.rowid = k) db.lexicons db'.lexicons
  reltypes : ∃ rows, db'.reltypes = db.reltypes ++ rows
  ilistatuses : db'.ilistatuses = db.ilistatuses
  ilis : GrowsBy (fun r => r.rowid ∉ db.ilis.map RIli.rowid) db.ilis db'.ilis
  synsets : GrowsBy (OwnedNew RSynset.lex RSynset.rowid k db.synsets) db.synsets db'.synsets
  pilis : GrowsBy (fun r => ∃ y ∈ db'.synsets, y.lex = k ∧ y.rowid = r.synset) db.pilis db'.pilis
  entries : GrowsBy (OwnedNew REntry.lex REntry.rowid k db.entries) db.entries db'.entries
  forms : GrowsBy (NewFormRow k b db'.entries db.forms) db.forms db'.forms
  prons : GrowsBy (fun r => NewFormRef k b db'.entries db'.forms r.form) db.prons db'.prons
  tags : GrowsBy (fun r => NewFormRef k b db'.entries db'.forms r.form) db.tags db'.tags
  senses : GrowsBy (fun r => OwnedNew RSense.lex RSense.rowid k db.senses r ∧
    ∃ y ∈ db'.synsets, (y.lex = k ∨ y.lex = b) ∧ y.rowid = r.synset) db.senses db'.senses
  adjs : GrowsBy (fun r => ∃ x ∈ db'.senses, (x.lex = k ∨ x.lex = b) ∧ x.rowid = r.sense) db.adjs db'.adjs
  counts : GrowsBy (fun r => r.lex = k) db.counts db'.counts
  sbs : GrowsBy (OwnedNew RSb.lex RSb.rowid k db.sbs) db.sbs db'.sbs
  sbsenses : GrowsBy (fun r => ∃ y ∈ db'.sbs, y.lex = k ∧ y.rowid = r.sb) db.sbsenses db'.sbsenses
  synrels : GrowsBy (fun r => r.lex = k) db.synrels db'.synrels
  senserels : GrowsBy (fun r => r.lex = k) db.senserels db'.senserels
  sensesynrels : GrowsBy (fun r => r.lex = k) db.sensesynrels db'.sensesynrels
  defs : GrowsBy (fun r => r.lex = k) db.defs db'.defs
  synexs : GrowsBy (fun r => r.lex = k) db.synexs db'.synexs
  sensexs : GrowsBy (fun r => r.lex = k) db.sensexs db'.sensexs

theorem Grows.lex_ne {db db' : Db} {k b : Nat} (g : Grows db db' k b) {ρ} {lex : ρ → Nat} {T : List ρ}
    (hfk : ∀ o ∈ T, lex o ∈ db.lexicons.map RLexicon.rowid) : ∀ o ∈ T, lex o ≠ k :=
  fun o ho e => g.new (e ▸ hfk o ho)

theorem insertSynsets_grows {b b' : Db} {l : Lexicon} {c : Ctx} (h : insertSynsets b l c = .ok b') :
    GrowsBy (fun r => r.rowid ∉ b.ilis.map RIli.rowid) b.ilis b'.ilis ∧
    GrowsBy (OwnedNew RSynset.lex RSynset.rowid c.lexid b.synsets) b.synsets b'.synsets ∧
    GrowsBy (fun r => ∃ y ∈ b'.synsets, y.lex = c.lexid ∧ y.rowid = r.synset) b.pilis b'.pilis := by
  obtain ⟨_, I, Y, P, -, h1, h2, h3, rfl⟩ := insertSynsets_split h
  refine ⟨?_, ?_, ?_⟩
  · exact (Appends.foldlM (tbl := Db.ilis) (frame := fun _ => ()) (P := fun _ T r => r.rowid ∉ T.map RIli.rowid)
      (fun _ _ _ _ h hm => h (by rw [List.map_append]; exact List.mem_append_left _ hm))
      (fun b ss b' h => by
        rcases presupStep_ok h with ⟨rfl, -⟩ | ⟨-, rfl⟩
        · exact .refl _
        · exact .one rfl rfl (nextId_not_mem _)) h1).2
  · exact (Appends.foldlM (tbl := Db.synsets) (frame := fun _ => ()) (P := fun _ => OwnedNew RSynset.lex RSynset.rowid c.lexid)
      (fun _ _ _ _ => OwnedNew.shrink)
      (fun b ss b' h => by
        obtain ⟨_, -, rfl⟩ := synsetStep_ok h
        exact .one rfl rfl ⟨rfl, nextId_not_mem _⟩) h2).2
  · exact (Appends.foldlM (tbl := Db.pilis) (frame := Db.synsets)
      (P := fun Y _ r => ∃ y ∈ Y, y.lex = c.lexid ∧ y.rowid = r.synset) (fun _ _ _ _ h => h)
      (fun b ss b' h => by
        rcases piliStep_ok h with ⟨-, rfl⟩ | ⟨-, _, hs, -, rfl⟩
        · exact .refl _
        · obtain ⟨y, hy, -, hyl, hyr⟩ := rowOf_some hs
          exact .one rfl rfl ⟨y, hy, hyl, hyr⟩) h3).2

theorem insertEntries_grows {b b' : Db} {l : Lexicon} {c : Ctx} (h : insertEntries b l c = .ok b') :
    GrowsBy (OwnedNew REntry.lex REntry.rowid c.lexid b.entries) b.entries b'.entries :=
  (Appends.foldlM (tbl := Db.entries) (frame := fun _ => ()) (P := fun _ => OwnedNew REntry.lex REntry.rowid c.lexid)
    (fun _ _ _ _ => OwnedNew.shrink)
    (fun b e b' h => by
      obtain ⟨_, -, -, rfl⟩ := entryStep_ok h
      exact .one rfl rfl ⟨rfl, nextId_not_mem _⟩) h).2

theorem addForm_appends {norm : String → String} {c : Ctx} {b b' : Db} {eid : String} {er : Nat} {id : Option String}
    {form : String} {script : Option String} {rank : Nat} (he : entryRow b eid (c.lid eid) = some er)
    (h : addForm b norm c.lexid er id form script rank = .ok b') :
    Appends Db.forms Db.entries (NewFormRow c.lexid c.extid) b b' := by
  obtain ⟨x, hx, -, hxl, hxr⟩ := rowOf_some he
  rw [addForm_ok h]
  exact .one rfl rfl ⟨⟨rfl, nextId_not_mem _⟩, x, hx, hxl ▸ c.lid_cases eid, hxr⟩

theorem insertForms_grows {b b' : Db} {norm : String → String} {l : Lexicon} {c : Ctx}
    (h : insertForms b norm l c = .ok b') : GrowsBy (NewFormRow c.lexid c.extid b.entries b.forms) b.forms b'.forms := by
  have shrink : ∀ (E : List REntry) (F X : List RForm) (r : RForm),
      NewFormRow c.lexid c.extid E (F ++ X) r → NewFormRow c.lexid c.extid E F r :=
    fun _ _ _ _ h => ⟨h.1.shrink, h.2⟩
  refine (Appends.foldlM shrink (fun b e b' h => ?_) h).2
  obtain ⟨b1, h2, h1⟩ := entryFormsStep_ok h
  have h2 : Appends Db.forms Db.entries (NewFormRow c.lexid c.extid) b1 b' :=
    Appends.foldlM shrink (fun b fi b' h => by
      rcases formStep_ok h with ⟨-, rfl⟩ | ⟨-, _, he, h⟩
      · exact .refl _
      · exact addForm_appends he h) h2
  rcases h1 with ⟨-, rfl⟩ | ⟨-, _, _, -, he, h1⟩
  · exact h2
  · exact (addForm_appends he h1).trans shrink h2

theorem formRow_newFormRef {c : Ctx} {b : Db} {eid : String} {fid : Option String} {rank : Option Nat} {x : Nat}
    (h : formRow b eid (c.lid eid) fid rank = some x) : NewFormRef c.lexid c.extid b.entries b.forms x :=
  have ⟨f, hf, ⟨e, he, hel, hef⟩, hx⟩ := formRow_some h
  ⟨f, hf, ⟨e, he, hel ▸ c.lid_cases eid, hef⟩, hx⟩

theorem insertPronsTags_grows {b b' : Db} {l : Lexicon} {c : Ctx} (h : insertPronsTags b l c = .ok b') :
    GrowsBy (fun r => NewFormRef c.lexid c.extid b.entries b.forms r.form) b.prons b'.prons ∧
    GrowsBy (fun r => NewFormRef c.lexid c.extid b.entries b.forms r.form) b.tags b'.tags := by
  obtain ⟨P, T, h1, h2, rfl⟩ := insertPronsTags_split h
  constructor
  · exact (Appends.foldlM (tbl := Db.prons) (frame := fun d => (d.entries, d.forms))
      (P := fun EF _ r => NewFormRef c.lexid c.extid EF.1 EF.2 r.form) (fun _ _ _ _ h => h)
      (fun b q b' h => by
        obtain ⟨_, hf, rfl⟩ := pronStep_ok h
        exact .one rfl rfl (formRow_newFormRef hf)) h1).2
  · exact (Appends.foldlM (tbl := Db.tags) (frame := fun d => (d.entries, d.forms))
      (P := fun EF _ r => NewFormRef c.lexid c.extid EF.1 EF.2 r.form) (fun _ _ _ _ h => h)
      (fun b q b' h => by
        obtain ⟨_, hf, rfl⟩ := tagStep_ok h
        exact .one rfl rfl (formRow_newFormRef hf)) h2).2

theorem insertSenses_grows {b b' : Db} {l : Lexicon} {c : Ctx} {dr : Nat} (h : insertSenses b l c dr = .ok b') :
    GrowsBy (fun r => OwnedNew RSense.lex RSense.rowid c.lexid b.senses r ∧
      ∃ y ∈ b.synsets, (y.lex = c.lexid ∨ y.lex = c.extid) ∧ y.rowid = r.synset) b.senses b'.senses ∧
    GrowsBy (fun r => ∃ x ∈ b'.senses, (x.lex = c.lexid ∨ x.lex = c.extid) ∧ x.rowid = r.sense) b.adjs b'.adjs := by
  obtain ⟨S, A, C, h1, h2, -, rfl⟩ := insertSenses_split h
  constructor
  · exact (Appends.foldlM (tbl := Db.senses) (frame := Db.synsets)
      (P := fun Y T r => OwnedNew RSense.lex RSense.rowid c.lexid T r ∧
        ∃ y ∈ Y, (y.lex = c.lexid ∨ y.lex = c.extid) ∧ y.rowid = r.synset)
      (fun _ _ _ _ h => ⟨h.1.shrink, h.2⟩)
      (fun b p b' h => by
        obtain ⟨_, _, -, hs, rfl⟩ := senseStep_ok h
        obtain ⟨y, hy, -, hyl, hyr⟩ := rowOf_some hs
        exact .one rfl rfl ⟨⟨rfl, nextId_not_mem _⟩, y, hy, hyl ▸ c.lid_cases _, hyr⟩) h1).2
  · exact (Appends.foldlM (tbl := Db.adjs) (frame := Db.senses)
      (P := fun S _ r => ∃ x ∈ S, (x.lex = c.lexid ∨ x.lex = c.extid) ∧ x.rowid = r.sense) (fun _ _ _ _ h => h)
      (fun b sn b' h => by
        rcases adjStep_ok h with rfl | ⟨_, _, -, -, hs, rfl⟩
        · exact .refl _
        · obtain ⟨x, hx, -, hxl, hxr⟩ := rowOf_some hs
          exact .one rfl rfl ⟨x, hx, hxl ▸ c.lid_cases _, hxr⟩) h2).2

theorem insertSbs_grows {b b' : Db} {sbs : List Sb} {c : Ctx} (h : insertSbs b sbs c = .ok b') :
    GrowsBy (OwnedNew RSb.lex RSb.rowid c.lexid b.sbs) b.sbs b'.sbs ∧
    GrowsBy (fun r => ∃ y ∈ b'.sbs, y.lex = c.lexid ∧ y.rowid = r.sb) b.sbsenses b'.sbsenses := by
  obtain ⟨B, X, h1, h2, rfl⟩ := insertSbs_split h
  constructor
  · exact (Appends.foldlM (tbl := Db.sbs) (frame := fun _ => ()) (P := fun _ => OwnedNew RSb.lex RSb.rowid c.lexid)
      (fun _ _ _ _ => OwnedNew.shrink)
      (fun b sb b' h => by
        obtain ⟨-, rfl⟩ := sbStep_ok h
        exact .one rfl rfl ⟨rfl, nextId_not_mem _⟩) h1).2
  · exact (Appends.foldlM (tbl := Db.sbsenses) (frame := Db.sbs)
      (P := fun B _ r => ∃ y ∈ B, y.lex = c.lexid ∧ y.rowid = r.sb) (fun _ _ _ _ h => h)
      (fun b p b' h => by
        obtain ⟨_, _, hb, -, rfl⟩ := sbSenseStep_ok h
        obtain ⟨y, hy, hp, hyr⟩ := find?_map_eq_some hb
        exact .one rfl rfl ⟨y, hy, eq_of_beq (Bool.and_eq_true_iff.mp hp).1, hyr⟩) h2).2

theorem AddTrace.grows {norm : String → String} {dr : Nat} {db db' : Db} {l : Lexicon} (t : AddTrace norm dr db db' l) :
    Grows db db' t.lexid t.extid where
  new := t.lexid_eq ▸ nextId_not_mem _
  lexicons := ⟨_, t.lexicons_eq, List.forall_mem_singleton.mpr rfl⟩
  reltypes := by
    rw [t.reltypes_eq]
    exact foldl_lookupInsert_prefix _ _
  ilistatuses := (congrArg Db.ilistatuses t.stages.last :)
  ilis := (insertSynsets_grows t.syn).1
  synsets := (insertSynsets_grows t.syn).2.1
  pilis := (insertSynsets_grows t.syn).2.2
  entries := insertEntries_grows t.ent
  forms := insertForms_grows t.form
  prons := (insertPronsTags_grows t.pt).1
  tags := (insertPronsTags_grows t.pt).2
  senses := (insertSenses_grows t.sen).1
  adjs := (insertSenses_grows t.sen).2
  counts := .of_table (addLexicon_counts_table t) fun _ _ h => h.1
  sbs := (insertSbs_grows t.sb).1
  sbsenses := (insertSbs_grows t.sb).2
  synrels := .of_table (addLexicon_synrel_table t).2.2 fun _ _ h => h.1
  senserels := .of_table (addLexicon_senserel_table t).2 fun _ _ h => h.1
  sensesynrels := .of_table (addLexicon_sensesynrel_table t).2 fun _ _ h => h.1
  defs := .of_table (addLexicon_defs_tables t).1 fun _ _ h => h.1
  synexs := .of_table (addLexicon_defs_tables t).2.1 fun _ _ h => h.1
  sensexs := .of_table (addLexicon_defs_tables t).2.2 fun _ _ h => h.1

end WnVerif.Db
