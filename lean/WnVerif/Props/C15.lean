/-
C15 — information-content weights are conserved, counted once and monotone.

`Model/Ic.lean` mirrors `wn/ic.py` (`_initialize`, `compute`) over exact rationals.
`touched g n s` is the agenda walk of `compute`; on every finite hypernym graph, cycles included,
it is exactly `s` and its hypernym ancestors, each once (`C15_touched`), and the closed form of
every weight follows from that.
-/
import Mathlib.Algebra.Order.Field.Basic
import Mathlib.Algebra.Order.BigOperators.Group.List
import Mathlib.Tactic.Positivity
import WnVerif.Model.Ic
import WnVerif.Lemmas.Walk
import WnVerif.Gen.Misc
import WnVerif.Gen.Constants
namespace WnVerif.Props.C15
open WnVerif.Graph WnVerif.Ic

/-- tie to the source: the parts of speech that carry information content (`IC_PARTS_OF_SPEECH`,
with the satellite adjective folded into the adjective) are those of `icPos` -/
theorem C15_gen_ic_parts_of_speech :
    (∀ p ∈ Gen.ic_parts_of_speech, icPos p = some p) ∧ icPos Gen.pos_adj_sat = some Gen.pos_adj ∧
    (∀ p ∈ Gen.parts_of_speech, (icPos p).isSome = (Gen.ic_parts_of_speech.contains p || p == Gen.pos_adj_sat)) := by decide +kernel

theorem C15_touched (g : Adj) (n : Nat) (hr : InRange g n) (s : Nat) (hs : s < n) :
    (touched g n s).Nodup ∧ ∀ c, c ∈ touched g n s ↔ Reach g s c := by
  obtain ⟨r, hw, hn, hr⟩ := walk_exact pushStack goodPush_stack g n hr [s] (by simpa using hs)
  rw [touched, hw]
  exact ⟨hn, fun c => (hr c).trans (by simp)⟩

theorem foldl_addNode (w : Rat) (L : List Nat) (f : Nat → Rat) (c : Nat) (hn : L.Nodup) :
    (L.foldl (fun f i => addNode f i w) f) c = f c + (if c ∈ L then w else 0) := by
  refine (foldl_add_sum (fun f i => addNode f i w) (· c) (fun i => if c = i then w else 0) L
    (fun f i _ => by simp only [addNode, beq_iff_eq]; split <;> simp) f).trans ?_
  congr 1
  induction L with
  | nil => simp
  | cons a t ih =>
    obtain ⟨hat, hnt⟩ := List.nodup_cons.mp hn
    rw [List.map_cons, List.sum_cons, ih hnt]
    by_cases hca : c = a
    · subst hca; simp [hat]
    · simp [hca]

/-- contribution of one word synset `s` with weight `w` to the weight of `c` -/
def contrib (g : Adj) (n : Nat) (pos : Nat → String) (w : Rat) (s c : Nat) : Rat :=
  if (icPos (pos s)).isSome ∧ c ∈ touched g n s then w else 0

/-- weight added to the total of part of speech `p` -/
def contribTot (pos : Nat → String) (w : Rat) (s : Nat) (p : String) : Rat :=
  if icPos (pos s) = some p then w else 0

theorem addSynset_node (g : Adj) (n : Nat) (hr : InRange g n) (pos : Nat → String) (w : Rat)
    (fr : Freq) (s : Nat) (hs : s < n) (c : Nat) :
    (addSynset g n pos w fr s).node c = fr.node c + contrib g n pos w s c := by
  unfold addSynset contrib
  cases h : icPos (pos s) with
  | none => simp
  | some p =>
    simp only [Option.isSome_some, true_and]
    exact foldl_addNode w _ _ c (C15_touched g n hr s hs).1

theorem addSynset_total (g : Adj) (n : Nat) (pos : Nat → String) (w : Rat)
    (fr : Freq) (s : Nat) (p : String) :
    (addSynset g n pos w fr s).total p = fr.total p + contribTot pos w s p := by
  unfold addSynset contribTot
  cases h : icPos (pos s) with
  | none => simp
  | some q =>
    simp only [addTot, beq_iff_eq, Option.some.injEq, @eq_comm _ q p]
    split <;> simp

/-- the (optionally evenly distributed) count of a corpus word -/
def wordWeight (distribute : Bool) (wc : Nat × List Nat) : Rat :=
  if distribute then (wc.1 : Rat) / (wc.2.length : Rat) else (wc.1 : Rat)

/-- what one corpus word adds to synset `c` / to the total of `p` (nothing for unknown words) -/
def wordContrib (g : Adj) (n : Nat) (pos : Nat → String) (distribute : Bool) (wc : Nat × List Nat) (c : Nat) : Rat :=
  (wc.2.map (fun s => contrib g n pos (wordWeight distribute wc) s c)).sum
def wordContribTot (pos : Nat → String) (distribute : Bool) (wc : Nat × List Nat) (p : String) : Rat :=
  (wc.2.map (fun s => contribTot pos (wordWeight distribute wc) s p)).sum

/-- the test for unknown words is no special case: folding over no synsets changes nothing -/
theorem addWord_eq (g : Adj) (n : Nat) (pos : Nat → String) (distribute : Bool) (fr : Freq) (wc : Nat × List Nat) :
    addWord g n pos distribute fr wc = wc.2.foldl (addSynset g n pos (wordWeight distribute wc)) fr := by
  obtain ⟨count, syns⟩ := wc
  cases syns <;> rfl

theorem addWord_node (g : Adj) (n : Nat) (hr : InRange g n) (pos : Nat → String) (distribute : Bool)
    (fr : Freq) (wc : Nat × List Nat) (hs : ∀ s ∈ wc.2, s < n) (c : Nat) :
    (addWord g n pos distribute fr wc).node c = fr.node c + wordContrib g n pos distribute wc c := by
  rw [addWord_eq]
  exact foldl_add_sum _ (·.node c) _ wc.2 (fun fr s hs' => addSynset_node g n hr pos _ fr s (hs s hs') c) fr

theorem addWord_total (g : Adj) (n : Nat) (pos : Nat → String) (distribute : Bool)
    (fr : Freq) (wc : Nat × List Nat) (p : String) :
    (addWord g n pos distribute fr wc).total p = fr.total p + wordContribTot pos distribute wc p := by
  rw [addWord_eq]
  exact foldl_add_sum _ (·.total p) _ wc.2 (fun fr s _ => addSynset_total g n pos _ fr s p) fr

/-- every synset weight is smoothing + the sum, over corpus words and
their synsets, of the word's weight whenever the walk from the word synset touches the synset (the word synset itself
or one of its hypernym ancestors: `C15_touched`) — once per word synset. -/
theorem C15_once (g : Adj) (n : Nat) (hr : InRange g n) (pos : Nat → String) (distribute : Bool)
    (smoothing : Rat) (words : List (Nat × List Nat)) (hw : ∀ wc ∈ words, ∀ s ∈ wc.2, s < n) (c : Nat) :
    (compute g n pos distribute smoothing words).node c =
      smoothing + (words.map (fun wc => wordContrib g n pos distribute wc c)).sum :=
  foldl_add_sum _ (·.node c) _ words (fun fr wc hwc => addWord_node g n hr pos distribute fr wc (hw wc hwc) c) _

/-- each part of speech gets smoothing + the sum of the weights of the
corpus words' synsets of that part of speech (satellite adjectives count as adjectives,
words not found contribute nothing). -/
theorem C15_total (g : Adj) (n : Nat) (pos : Nat → String) (distribute : Bool)
    (smoothing : Rat) (words : List (Nat × List Nat)) (p : String) :
    (compute g n pos distribute smoothing words).total p =
      smoothing + (words.map (fun wc => wordContribTot pos distribute wc p)).sum :=
  foldl_add_sum _ (·.total p) _ words (fun fr wc _ => addWord_total g n pos distribute fr wc p) _

theorem C15_sat_as_adj : icPos "s" = some "a" ∧ icPos "a" = some "a" := by decide

theorem C15_unknown_ignored (g : Adj) (n : Nat) (pos : Nat → String) (distribute : Bool) (fr : Freq)
    (count : Nat) : addWord g n pos distribute fr (count, []) = fr := by
  simp [addWord]

theorem wordWeight_nonneg (distribute : Bool) (wc : Nat × List Nat) : 0 ≤ wordWeight distribute wc := by
  unfold wordWeight
  split <;> positivity

theorem sum_words_le (words : List (Nat × List Nat)) (f g : Nat × List Nat → Nat → Rat)
    (h : ∀ wc ∈ words, ∀ s ∈ wc.2, f wc s ≤ g wc s) (a : Rat) :
    a + (words.map fun wc => (wc.2.map (f wc)).sum).sum ≤ a + (words.map fun wc => (wc.2.map (g wc)).sum).sum :=
  (add_le_add_iff_left a).mpr (List.sum_le_sum fun wc hwc => List.sum_le_sum (h wc hwc))

/-- weights never decrease going up the taxonomy -/
theorem C15_monotone (g : Adj) (n : Nat) (hr : InRange g n) (pos : Nat → String) (distribute : Bool)
    (smoothing : Rat) (words : List (Nat × List Nat)) (hw : ∀ wc ∈ words, ∀ s ∈ wc.2, s < n)
    (c h : Nat) (hch : h ∈ g c) :
    (compute g n pos distribute smoothing words).node c ≤
      (compute g n pos distribute smoothing words).node h := by
  rw [C15_once g n hr pos distribute smoothing words hw c, C15_once g n hr pos distribute smoothing words hw h]
  refine sum_words_le words _ _ (fun wc hwc s hs => ite_le_ite (wordWeight_nonneg distribute wc) fun hc => ?_) smoothing
  have hiff := (C15_touched g n hr s (hw wc hwc s hs)).2
  exact ⟨hc.1, (hiff h).mpr (Reach.step ((hiff c).mp hc.2) hch)⟩

/-- the hypernym relation stays inside one (a/s-folded) part of speech -/
def PosClosed (g : Adj) (pos : Nat → String) : Prop := ∀ c h, h ∈ g c → icPos (pos h) = icPos (pos c)

theorem posClosed_reach (g : Adj) (pos : Nat → String) (hp : PosClosed g pos) {s c : Nat}
    (h : Reach g s c) : icPos (pos c) = icPos (pos s) := by
  induction h with
  | refl => rfl
  | step _ hz ih => rw [hp _ _ hz, ih]

theorem C15_le_total (g : Adj) (n : Nat) (hr : InRange g n) (pos : Nat → String) (hp : PosClosed g pos)
    (distribute : Bool) (smoothing : Rat) (words : List (Nat × List Nat))
    (hw : ∀ wc ∈ words, ∀ s ∈ wc.2, s < n) (c : Nat) (p : String) (hc : icPos (pos c) = some p) :
    (compute g n pos distribute smoothing words).node c ≤
      (compute g n pos distribute smoothing words).total p := by
  rw [C15_once g n hr pos distribute smoothing words hw c, C15_total]
  refine sum_words_le words _ _ (fun wc hwc s hs => ite_le_ite (wordWeight_nonneg distribute wc) fun h1 => ?_) smoothing
  have hsc := ((C15_touched g n hr s (hw wc hwc s hs)).2 c).mp h1.2
  exact (posClosed_reach g pos hp hsc).symm.trans hc

theorem sum_words_pos (words : List (Nat × List Nat)) (f : Nat × List Nat → Nat → Rat)
    (h : ∀ wc ∈ words, ∀ s ∈ wc.2, 0 ≤ f wc s) {a : Rat} (ha : 0 < a) :
    0 < a + (words.map fun wc => (wc.2.map (f wc)).sum).sum := by
  refine lt_of_lt_of_le ha (le_add_of_nonneg_right (List.sum_nonneg fun x hx => ?_))
  obtain ⟨wc, hwc, rfl⟩ := List.mem_map.mp hx
  refine List.sum_nonneg fun y hy => ?_
  obtain ⟨s, hs, rfl⟩ := List.mem_map.mp hy
  exact h wc hwc s hs

theorem C15_weight_pos (g : Adj) (n : Nat) (hr : InRange g n) (pos : Nat → String) (distribute : Bool)
    (smoothing : Rat) (hsm : 0 < smoothing) (words : List (Nat × List Nat))
    (hw : ∀ wc ∈ words, ∀ s ∈ wc.2, s < n) (c : Nat) :
    0 < (compute g n pos distribute smoothing words).node c := by
  rw [C15_once g n hr pos distribute smoothing words hw c]
  refine sum_words_pos words _ (fun wc _ s _ => ?_) hsm
  unfold contrib
  split
  · exact wordWeight_nonneg distribute wc
  · exact le_refl _

theorem total_pos (g : Adj) (n : Nat) (pos : Nat → String) (distribute : Bool) (smoothing : Rat)
    (hsm : 0 < smoothing) (words : List (Nat × List Nat)) (p : String) :
    0 < (compute g n pos distribute smoothing words).total p := by
  rw [C15_total]
  refine sum_words_pos words _ (fun wc _ s _ => ?_) hsm
  unfold contribTot
  split
  · exact wordWeight_nonneg distribute wc
  · exact le_refl _

theorem C15_prob_range (g : Adj) (n : Nat) (hr : InRange g n) (pos : Nat → String) (hp : PosClosed g pos)
    (distribute : Bool) (smoothing : Rat) (hsm : 0 < smoothing) (words : List (Nat × List Nat))
    (hw : ∀ wc ∈ words, ∀ s ∈ wc.2, s < n) (c : Nat) (p : String) (hc : icPos (pos c) = some p) :
    let fr := compute g n pos distribute smoothing words
    0 < fr.node c / fr.total p ∧ fr.node c / fr.total p ≤ 1 :=
  have h3 := total_pos g n pos distribute smoothing hsm words p
  ⟨div_pos (C15_weight_pos g n hr pos distribute smoothing hsm words hw c) h3,
    (div_le_one h3).mpr (C15_le_total g n hr pos hp distribute smoothing words hw c p hc)⟩

/-- the probability of a synset is at most that of its hypernym, so that information content −log p
is antitone along hypernymy.  `hp` and `hc` are not used: every total is positive (`total_pos`). -/
theorem C15_prob_monotone (g : Adj) (n : Nat) (hr : InRange g n) (pos : Nat → String) (hp : PosClosed g pos)
    (distribute : Bool) (smoothing : Rat) (hsm : 0 < smoothing) (words : List (Nat × List Nat))
    (hw : ∀ wc ∈ words, ∀ s ∈ wc.2, s < n) (c h : Nat) (hch : h ∈ g c) (p : String)
    (hc : icPos (pos c) = some p) :
    let fr := compute g n pos distribute smoothing words
    fr.node c / fr.total p ≤ fr.node h / fr.total p :=
  div_le_div_of_nonneg_right (C15_monotone g n hr pos distribute smoothing words hw c h hch)
    (total_pos g n pos distribute smoothing hsm words p).le

/-- non-vacuity: the diamond 0→1, 0→2, 1→3, 2→3 with the word synset 0 — the root 3 is
reached along two paths and still receives the weight once (2 = smoothing 1 + 1). -/
def diamond : Adj := fun i => match i with
  | 0 => [1, 2]
  | 1 => [3]
  | 2 => [3]
  | _ => []

theorem C15_diamond_once :
    (compute diamond 4 (fun _ => "n") true 1 [(1, [0])]).node 3 = 2 ∧
    (compute diamond 4 (fun _ => "n") true 1 [(1, [0])]).total "n" = 2 := by
  decide +kernel

end WnVerif.Props.C15
