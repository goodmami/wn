/- A store that has grown by the rows of one more lexicon `k` (`Grows`, `Lemmas/AddGrows`) answers the queries of
`Model/Query.lean` restricted to a selection `S` that does not contain `k` as before.  The stored rows have to point at
stored rows (the hypotheses `hfk…`, `hlink`), so that every look-up made for them finds what it found.  An extension
hangs forms on entries of its base, so the queries that read `forms` are framed only for a lexicon that is not one
(`Grows db db' k k`). -/
import WnVerif.Lemmas.AddGrows
import WnVerif.Lemmas.RelQuery
namespace WnVerif.Db

section
variable {db db' : Db} {k b : Nat} (g : Grows db db' k b)
include g

theorem Grows.iliIdOf_eq {o : Option Nat} (ho : ∀ j, o = some j → j ∈ db.ilis.map (·.rowid)) :
    iliIdOf db' o = iliIdOf db o := by
  cases o with
  | none => rfl
  | some j => exact congrArg (Option.map (·.id)) (g.ilis.find? (ho j rfl))

theorem Grows.synsetData_eq {o : RSynset} (ho : ∀ j, o.ili = some j → j ∈ db.ilis.map (·.rowid)) :
    synsetData db' o = synsetData db o := by
  unfold synsetData
  rw [g.iliIdOf_eq ho]

theorem Grows.senseData_eq {o : RSense} (hE : o.entry ∈ db.entries.map (·.rowid))
    (hY : o.synset ∈ db.synsets.map (·.rowid)) : senseData db' o = senseData db o := by
  unfold senseData
  rw [g.entries.find? hE, g.synsets.find? hY]

theorem Grows.lexSpec_eq {x : Nat} (hx : x ∈ db.lexicons.map (·.rowid)) : lexSpec db' x = lexSpec db x := by
  unfold lexSpec
  rw [g.lexicons.find? hx]

theorem Grows.typeOk_eq (types : List String) {ty : Nat} (hty : ty ∈ db.reltypes.map (·.1)) :
    typeOk db' types ty = typeOk db types ty := by
  obtain ⟨_, h⟩ := g.reltypes
  unfold typeOk lookupName
  rw [h, find?_append_of_mem hty]

variable {S : List Nat}

theorem Grows.findSynsets_eq (hS : S ≠ []) (hk : k ∉ S)
    (hlink : ∀ o ∈ db.synsets, ∀ j, o.ili = some j → j ∈ db.ilis.map (·.rowid))
    (id pos ili : Option String) (n a : Bool) :
    findSynsets db' id [] pos ili S n a = findSynsets db id [] pos ili S n a := by
  unfold findSynsets
  simp only [List.isEmpty_nil, if_true]
  rw [inLexOrAll_of_ne_nil hS, g.synsets.filter (fun _ h => h.1) hk,
    List.map_congr_left fun o ho => g.synsetData_eq (hlink o (List.mem_filter.mp ho).1)]
  congr 1
  exact List.filter_congr fun o ho => by simp only [g.iliIdOf_eq (hlink o ho)]

theorem Grows.relRow_eq {ρ τ} {P : ρ → Prop} {T T' : List ρ} (gT : GrowsBy P T T') {rowid lex : ρ → Nat}
    {dec' dec : ρ → Option τ} (hdec : ∀ tgt ∈ T, dec' tgt = dec tgt) (sel : RRel → Bool) (types : List String) {o : RRel}
    (hty : o.type ∈ db.reltypes.map (·.1)) (hlx : o.lex ∈ db.lexicons.map (·.rowid)) (htg : o.target ∈ T.map rowid) :
    relRow db' T' rowid lex dec' sel types S o = relRow db T rowid lex dec sel types S o := by
  unfold relRow
  rw [g.typeOk_eq types hty, g.lexSpec_eq hlx, gT.find? htg]
  cases typeOk db types o.type with
  | none => rfl
  | some n =>
    cases hfind : T.find? (fun x => rowid x == o.target) with
    | none => rfl
    | some tgt => simp only [hdec tgt (List.mem_of_find?_eq_some hfind)]

theorem Grows.synsetRelations_eq (hk : k ∉ S)
    (hty : ∀ o ∈ db.synrels, o.type ∈ db.reltypes.map (·.1)) (htg : ∀ o ∈ db.synrels, o.target ∈ db.synsets.map (·.rowid))
    (hlx : ∀ o ∈ db.synrels, o.lex ∈ db.lexicons.map (·.rowid))
    (hlink : ∀ o ∈ db.synsets, ∀ j, o.ili = some j → j ∈ db.ilis.map (·.rowid))
    (sources : List Nat) (types : List String) :
    synsetRelations db' sources types S = synsetRelations db sources types S := by
  obtain ⟨rows, hR, hlex⟩ := g.synrels
  rw [Db.synsetRelations_eq, Db.synsetRelations_eq, hR]
  congr 1
  exact filterMap_frame (fun r hr => relRow_outside (hlex r hr ▸ hk)) fun o ho =>
    g.relRow_eq g.synsets (fun tgt ht => congrArg some (g.synsetData_eq (hlink tgt ht))) _ types
      (hty o ho) (hlx o ho) (htg o ho)

theorem Grows.senseRelations_eq (hk : k ∉ S)
    (hty : ∀ o ∈ db.senserels, o.type ∈ db.reltypes.map (·.1)) (htg : ∀ o ∈ db.senserels, o.target ∈ db.senses.map (·.rowid))
    (hlx : ∀ o ∈ db.senserels, o.lex ∈ db.lexicons.map (·.rowid))
    (hfkE : ∀ o ∈ db.senses, o.entry ∈ db.entries.map (·.rowid))
    (hfkY : ∀ o ∈ db.senses, o.synset ∈ db.synsets.map (·.rowid)) (source : Nat) (types : List String) :
    senseRelations db' source types S = senseRelations db source types S := by
  obtain ⟨rows, hR, hlex⟩ := g.senserels
  rw [Db.senseRelations_eq, Db.senseRelations_eq, hR]
  congr 1
  exact filterMap_frame (fun r hr => relRow_outside (hlex r hr ▸ hk)) fun o ho =>
    g.relRow_eq g.senses (fun tgt ht => g.senseData_eq (hfkE tgt ht) (hfkY tgt ht)) _ types
      (hty o ho) (hlx o ho) (htg o ho)

theorem Grows.definitions_eq (hk : k ∉ S)
    (hfk : ∀ d ∈ db.defs, ∀ s, d.sense = some s → s ∈ db.senses.map (·.rowid)) (x : Nat) :
    definitions db' x S = definitions db x S := by
  unfold definitions
  rw [g.defs.filter (fun _ h => h) hk]
  refine List.map_congr_left fun d hd => ?_
  cases hsn : d.sense with
  | none => rfl
  | some s => simp only; rw [g.senses.find? (hfk d (List.mem_filter.mp hd).1 s hsn)]

/-- `hfm`, that the form condition of the stored entries is unchanged, holds trivially without a form query and by
`Grows.formMatch_eq` for a lexicon that is not an extension -/
theorem Grows.findSenses_eq (hS : S ≠ []) (hk : k ∉ S)
    (hfkE : ∀ o ∈ db.senses, o.entry ∈ db.entries.map (·.rowid))
    (hfkY : ∀ o ∈ db.senses, o.synset ∈ db.synsets.map (·.rowid))
    {forms : List String} {n a : Bool}
    (hfm : ∀ x ∈ db.entries.map (·.rowid),
      (forms.isEmpty || formMatch db' forms n a x) = (forms.isEmpty || formMatch db forms n a x))
    (id pos : Option String) :
    findSenses db' id forms pos S n a = findSenses db id forms pos S n a := by
  unfold findSenses
  rw [inLexOrAll_of_ne_nil hS, g.senses.filter (fun _ h => h.1.1) hk]
  refine listing_congr (fun L => L) (fun h => h) (fun o ho => ?_) (fun o ho => g.senseData_eq (hfkE o ho) (hfkY o ho))
  rw [g.entries.find? (hfkE o ho), hfm _ (hfkE o ho)]

/-- `get_entry_senses` / `get_synset_members`: the senses of `S` under some condition, in some order -/
theorem Grows.senseListing_eq (hk : k ∉ S)
    (hfkE : ∀ o ∈ db.senses, o.entry ∈ db.entries.map (·.rowid))
    (hfkY : ∀ o ∈ db.senses, o.synset ∈ db.synsets.map (·.rowid)) (key : RSense → Nat) (p : RSense → Bool) :
    (sortBy key (db'.senses.filter fun s => p s && inLex S s.lex)).filterMap (senseData db') =
      (sortBy key (db.senses.filter fun s => p s && inLex S s.lex)).filterMap (senseData db) := by
  rw [g.senses.filter (fun _ h => h.1.1) hk]
  exact listing_congr (sortBy key) (mem_sortBy _ _ _).mp (fun _ _ => rfl) fun o ho =>
    g.senseData_eq (hfkE o ho) (hfkY o ho)

theorem Grows.sbsenses_fresh (hfk : ∀ o ∈ db.sbs, o.lex ∈ db.lexicons.map (·.rowid)) :
    ∃ rows, db'.sbsenses = db.sbsenses ++ rows ∧ ∀ r ∈ rows, r.sb ∉ db.sbs.map (·.rowid) := by
  obtain ⟨brows, hB, hb⟩ := g.sbs
  obtain ⟨rows, hX, hx⟩ := g.sbsenses
  exact ⟨rows, hX, refs_fresh (fun b hb' => (hb b hb').2) (g.lex_ne hfk) (hB ▸ hx)⟩

theorem Grows.senseFrames_eq (hk : k ∉ S) (hfk : ∀ o ∈ db.sbs, o.lex ∈ db.lexicons.map (·.rowid)) (sense : Nat) :
    senseFrames db' sense S = senseFrames db sense S := by
  obtain ⟨brows, hB, hb⟩ := g.sbs
  obtain ⟨xrows, hX, hfresh⟩ := g.sbsenses_fresh hfk
  unfold senseFrames
  rw [hB]
  refine flatMap_frame (fun r hr => ?_) (fun o ho => ?_)
  · rw [(hb r hr).1, inLex_outside hk]; rfl
  · rw [hX, filter_append_right_nil fun r hr => ?_]
    rw [beq_false_of_fresh (hfresh r hr) ho, Bool.false_and]

theorem Grows.findSbs_eq (hS : S ≠ []) (hk : k ∉ S) (hfk : ∀ o ∈ db.sbs, o.lex ∈ db.lexicons.map (·.rowid))
    (hfkS : ∀ o ∈ db.sbsenses, o.sense ∈ db.senses.map (·.rowid)) : findSbs db' S = findSbs db S := by
  obtain ⟨brows, hB, hb⟩ := g.sbs
  obtain ⟨xrows, hX, hfresh⟩ := g.sbsenses_fresh hfk
  unfold findSbs
  rw [inLexOrAll_of_ne_nil hS, hB, filter_append_right_nil fun r hr => by rw [(hb r hr).1, inLex_outside hk]]
  refine filterMap_congr fun o ho => ?_
  have ho := (List.mem_filter.mp ((mem_foldr_insertSb o _).mp ho)).1
  rw [hX, filter_append_right_nil fun r hr => beq_false_of_fresh (hfresh r hr) ho,
    filterMap_congr fun x hx => by rw [g.senses.find? (hfkS x (List.mem_filter.mp hx).1)]]

theorem Grows.findIlis_eq (hS : S ≠ []) (hk : k ∉ S)
    (hlink : ∀ o ∈ db.synsets, ∀ j, o.ili = some j → j ∈ db.ilis.map (·.rowid))
    (hfkY : ∀ o ∈ db.synsets, o.lex ∈ db.lexicons.map (·.rowid))
    (id status : Option String) : findIlis db' id status S = findIlis db id status S := by
  obtain ⟨irows, hI, hifresh⟩ := g.ilis
  obtain ⟨yrows, hY, hy⟩ := g.synsets
  obtain ⟨prows, hP, hp⟩ := g.pilis
  -- the new proposed ILIs hang on the new lexicon's synsets, none on a stored synset
  have hpfresh := refs_fresh (fun y hy' => (hy y hy').2) (g.lex_ne hfkY) (hY ▸ hp)
  -- the synsets of `S` that carry a given ILI, or a given proposed ILI, are stored ones
  have hany : ∀ p : RSynset → Bool, db'.synsets.any (fun ss => p ss && S.contains ss.lex) =
      db.synsets.any (fun ss => p ss && S.contains ss.lex) := g.synsets.any (fun _ h => h.1) hk
  unfold findIlis
  simp only [List.isEmpty_eq_false_iff.mpr hS, Bool.false_or, g.ilistatuses, hany]
  rw [hI, hP]
  congr 1
  · congr 1
    refine filterMap_frame (fun i hi => ?_) (fun _ _ => rfl)
    -- no stored synset links to a new ILI
    have : db.synsets.any (fun ss => ss.ili == some i.rowid && S.contains ss.lex) = false :=
      List.any_eq_false.mpr fun ss hss => by
        have : ss.ili ≠ some i.rowid := fun e => hifresh i hi (hlink ss hss i.rowid e)
        simp [this]
    simp only [this, Bool.and_false]
    split <;> rfl
  · congr 1
    refine filterMap_frame (fun p hp => ?_) (fun _ _ => rfl)
    have : db.synsets.any (fun ss => ss.rowid == p.synset && S.contains ss.lex) = false :=
      List.any_eq_false.mpr fun ss hss => by
        rw [BEq.comm, beq_false_of_fresh (hpfresh p hp) hss, Bool.false_and]; simp
    rw [this]; rfl

end

section
variable {db db' : Db} {k : Nat} (g : Grows db db' k k)
include g

theorem Grows.forms_fresh (hfkE : ∀ o ∈ db.entries, o.lex ∈ db.lexicons.map (·.rowid)) :
    ∃ rows, db'.forms = db.forms ++ rows ∧ ∀ r ∈ rows, r.entry ∉ db.entries.map (·.rowid) := by
  obtain ⟨erows, hE, he⟩ := g.entries
  obtain ⟨rows, hF, hf⟩ := g.forms
  refine ⟨rows, hF, refs_fresh (fun x hx => (he x hx).2) (g.lex_ne hfkE) fun r hr => ?_⟩
  obtain ⟨x, hx, hxl, hxr⟩ := (hf r hr).2
  exact ⟨x, hE ▸ hx, or_self_iff.mp hxl, hxr⟩

theorem Grows.formMatch_eq (hfkE : ∀ o ∈ db.entries, o.lex ∈ db.lexicons.map (·.rowid)) (forms : List String)
    (n a : Bool) {x : Nat} (hx : x ∈ db.entries.map (·.rowid)) :
    formMatch db' forms n a x = formMatch db forms n a x := by
  obtain ⟨rows, hF, hfresh⟩ := g.forms_fresh hfkE
  obtain ⟨e, he, rfl⟩ := List.mem_map.mp hx
  unfold formMatch
  rw [hF]
  refine any_append_right_false (fun r hr => ?_) _
  rw [beq_false_of_fresh (hfresh r hr) he, Bool.false_and, Bool.false_and]

variable {S : List Nat}

theorem Grows.findEntries_eq (hS : S ≠ []) (hk : k ∉ S)
    (hfkE : ∀ o ∈ db.entries, o.lex ∈ db.lexicons.map (·.rowid))
    (id : Option String) (forms : List String) (pos : Option String) (n a : Bool) :
    findEntries db' id forms pos S n a = findEntries db id forms pos S n a := by
  obtain ⟨rows, hF, hfresh⟩ := g.forms_fresh hfkE
  unfold findEntries
  rw [inLexOrAll_of_ne_nil hS, g.entries.filter (fun _ h => h.1) hk]
  refine listing_congr (sortBy _) (mem_sortBy _ _ _).mp (fun o ho => ?_) (fun o ho => ?_)
  · rw [g.formMatch_eq hfkE forms n a (List.mem_map_of_mem ho)]
  · rw [hF, filter_append_right_nil fun r hr => beq_false_of_fresh (hfresh r hr) ho]

/-- `synsets(form)`: the new lexicon's matching senses sort in between the old ones and are dropped
again because their synsets lie outside `S` (`hnY'`: the synset a new sense refers to is found under its rowid) -/
theorem Grows.findSynsets_forms_eq (hS : S ≠ []) (hk : k ∉ S)
    (hfkL : ∀ o ∈ db.entries, o.lex ∈ db.lexicons.map (·.rowid)) (hnY' : (db'.synsets.map (·.rowid)).Nodup)
    (hfkE : ∀ o ∈ db.senses, o.entry ∈ db.entries.map (·.rowid))
    (hfkY : ∀ o ∈ db.senses, o.synset ∈ db.synsets.map (·.rowid))
    (hlink : ∀ o ∈ db.synsets, ∀ j, o.ili = some j → j ∈ db.ilis.map (·.rowid))
    (id : Option String) {forms : List String} (hforms : forms ≠ []) (pos ili : Option String) (n a : Bool) :
    findSynsets db' id forms pos ili S n a = findSynsets db id forms pos ili S n a := by
  obtain ⟨srows, hSn, hs⟩ := g.senses
  unfold findSynsets
  simp only [List.isEmpty_eq_false_iff.mpr hforms, Bool.false_eq_true, if_false]
  congr 1
  rw [inLexOrAll_of_ne_nil hS, hSn, List.filter_append,
    List.filter_congr fun o ho => g.formMatch_eq hfkL forms n a (hfkE o ho)]
  refine sortBy_append_filterMap (fun r hr => ?_) (fun o ho => ?_)
  · obtain ⟨-, y, hy, hyl, hyr⟩ := hs r (List.mem_filter.mp hr).1
    rw [← hyr, find?_key_eq_some (·.rowid) _ hnY' y hy]
    simp only [show y.lex = k from or_self_iff.mp hyl, inLex_outside hk, Bool.and_false]
    rfl
  · have ho := (List.mem_filter.mp ho).1
    rw [g.synsets.find? (hfkY o ho)]
    cases hf : db.synsets.find? (fun x => x.rowid == o.synset) with
    | none => rfl
    | some x =>
      have hx := hlink x (List.mem_of_find?_eq_some hf)
      simp only [g.iliIdOf_eq hx, g.synsetData_eq hx]

end

end WnVerif.Db
