/- `Forall2` (core Lean has no `List.Forall₂`) and how it passes through `map`, `filter`, `filterMap`, `flatten`. -/
import WnVerif.Lemmas.Lists
namespace WnVerif

/-- element-wise relation between two lists of the same length -/
inductive Forall2 {α β} (R : α → β → Prop) : List α → List β → Prop
  | nil : Forall2 R [] []
  | cons {a b l l'} : R a b → Forall2 R l l' → Forall2 R (a :: l) (b :: l')

theorem Forall2.imp {α β} {R S : α → β → Prop} (h : ∀ a b, R a b → S a b) : ∀ {l : List α} {l' : List β},
    Forall2 R l l' → Forall2 S l l' := by
  intro l l' hr
  induction hr with
  | nil => exact Forall2.nil
  | cons hh _ ih => exact Forall2.cons (h _ _ hh) ih

theorem Forall2.length_eq {α β} {R : α → β → Prop} {l : List α} {l' : List β} (h : Forall2 R l l') : l.length = l'.length := by
  induction h with
  | nil => rfl
  | cons _ _ ih => simp [ih]

theorem Forall2.get {α β} {R : α → β → Prop} : ∀ {l : List α} {l' : List β}, Forall2 R l l' →
    ∀ i (h1 : i < l.length) (h2 : i < l'.length), R l[i] l'[i] := by
  intro l l' h
  induction h with
  | nil => intro i h1; simp at h1
  | cons hh _ ih =>
    intro i h1 h2
    cases i with
    | zero => exact hh
    | succ j => simp only [List.getElem_cons_succ]; exact ih j (by simpa using h1) (by simpa using h2)

theorem Forall2.of_index {α β} {R : α → β → Prop} : ∀ (l : List α) (l' : List β), l.length = l'.length →
    (∀ i (h1 : i < l.length) (h2 : i < l'.length), R l[i] l'[i]) → Forall2 R l l' := by
  intro l
  induction l with
  | nil => intro l' hl _; cases l' with | nil => exact Forall2.nil | cons _ _ => simp at hl
  | cons a t ih =>
    intro l' hl h
    cases l' with
    | nil => simp at hl
    | cons b t' =>
      refine Forall2.cons (h 0 (by simp) (by simp)) (ih t' (by simpa using hl) ?_)
      intro i h1 h2
      have := h (i + 1) (by simpa using h1) (by simpa using h2)
      simpa using this

theorem Forall2.append {α β} {R : α → β → Prop} : ∀ {l1 : List α} {l1' : List β} {l2 : List α} {l2' : List β},
    Forall2 R l1 l1' → Forall2 R l2 l2' → Forall2 R (l1 ++ l2) (l1' ++ l2') := by
  intro l1 l1' l2 l2' h1 h2
  induction h1 with
  | nil => exact h2
  | cons hh _ ih => exact Forall2.cons hh ih

theorem Forall2.exists_of_mem_left {α β} {R : α → β → Prop} : ∀ {l : List α} {l' : List β}, Forall2 R l l' →
    ∀ a ∈ l, ∃ b ∈ l', R a b := by
  intro l l' h
  induction h with
  | nil => intro a ha; simp at ha
  | cons hr _ ih =>
    intro a ha
    rcases List.mem_cons.mp ha with rfl | ha
    · exact ⟨_, List.mem_cons_self, hr⟩
    · obtain ⟨b, hb, hrb⟩ := ih a ha
      exact ⟨b, List.mem_cons_of_mem _ hb, hrb⟩

theorem Forall2.exists_of_mem_right {α β} {R : α → β → Prop} : ∀ {l : List α} {l' : List β}, Forall2 R l l' →
    ∀ b ∈ l', ∃ a ∈ l, R a b := by
  intro l l' h
  induction h with
  | nil => intro b hb; simp at hb
  | cons h0 _ ih =>
    intro b hb
    rcases List.mem_cons.mp hb with rfl | hb
    · exact ⟨_, List.mem_cons_self, h0⟩
    · obtain ⟨a, ha, hr⟩ := ih b hb
      exact ⟨a, List.mem_cons_of_mem _ ha, hr⟩

theorem Forall2.forall_right {α β} {R : α → β → Prop} {P : β → Prop} (h : ∀ a b, R a b → P b)
    {l : List α} {l' : List β} (hh : Forall2 R l l') : ∀ b ∈ l', P b := fun b hb =>
  have ⟨a, _, hr⟩ := hh.exists_of_mem_right b hb
  h a b hr

theorem Forall2.and {α β} {R S : α → β → Prop} : ∀ {l : List α} {l' : List β}, Forall2 R l l' → Forall2 S l l' →
    Forall2 (fun a b => R a b ∧ S a b) l l' := by
  intro l l' h1
  induction h1 with
  | nil => intro h2; cases h2; exact Forall2.nil
  | cons hd _ ih => intro h2; cases h2 with | cons hd2 tl2 => exact Forall2.cons ⟨hd, hd2⟩ (ih tl2)

theorem Forall2.and_forall_left {α β} {R : α → β → Prop} {P : α → Prop} : ∀ {l : List α} {l' : List β},
    Forall2 R l l' → (∀ a ∈ l, P a) → Forall2 (fun a b => R a b ∧ P a) l l' := by
  intro l l' h
  induction h with
  | nil => intro _; exact .nil
  | cons h0 _ ih => intro hp; exact .cons ⟨h0, hp _ List.mem_cons_self⟩ (ih fun a ha => hp a (List.mem_cons_of_mem _ ha))

/-- of empty lists the relation holds whatever the parameter: for rows described relative to something that only a row
determines -/
theorem Forall2.param_of_ne_nil {ι α β} {P : ι → α → β → Prop} {l : List α} {l' : List β} {i i0 : ι}
    (hi : l ≠ [] → i = i0) (h : Forall2 (P i) l l') : Forall2 (P i0) l l' := by
  cases h with
  | nil => exact .nil
  | cons h0 ht => obtain rfl := hi (List.cons_ne_nil _ _); exact .cons h0 ht

theorem Forall2.pairwise {α β} {R : α → β → Prop} {S : α → α → Prop} {T : β → β → Prop}
    (hST : ∀ a b a' b', R a b → R a' b' → S a a' → T b b') :
    ∀ {l : List α} {l' : List β}, Forall2 R l l' → l.Pairwise S → l'.Pairwise T := by
  intro l l' h
  induction h with
  | nil => intro _; exact List.Pairwise.nil
  | @cons a b l l' hh hrest ih =>
    intro hp
    rw [List.pairwise_cons] at hp ⊢
    refine ⟨fun b' hb' => ?_, ih hp.2⟩
    obtain ⟨a', ha', hr'⟩ := hrest.exists_of_mem_right b' hb'
    exact hST a b a' b' hh hr' (hp.1 a' ha')

theorem Forall2.map_eq_mem {α β γ} {R : α → β → Prop} (p : β → γ) (q : α → γ) :
    ∀ {l : List α} {l' : List β}, Forall2 R l l' → (∀ a ∈ l, ∀ b ∈ l', R a b → p b = q a) → l'.map p = l.map q := by
  intro l l' h
  induction h with
  | nil => intro _; rfl
  | cons h0 _ ih =>
    intro hpq
    simp only [List.map_cons]
    rw [hpq _ List.mem_cons_self _ List.mem_cons_self h0,
      ih (fun a ha b hb hr => hpq a (List.mem_cons_of_mem _ ha) b (List.mem_cons_of_mem _ hb) hr)]

theorem Forall2.map_eq {α β γ} {R : α → β → Prop} (p : β → γ) (q : α → γ) (hpq : ∀ a b, R a b → p b = q a)
    {l : List α} {l' : List β} (h : Forall2 R l l') : l'.map p = l.map q :=
  h.map_eq_mem p q fun a _ b _ => hpq a b

/-- the converse of `Forall2.map_eq`: two lists with equal images are paired element by element -/
theorem Forall2.of_map_eq {α β γ} {p : β → γ} {q : α → γ} : ∀ {l : List α} {l' : List β},
    l'.map p = l.map q → Forall2 (fun a b => p b = q a) l l'
  | [], [], _ => .nil
  | [], _ :: _, h => nomatch h
  | _ :: _, [], h => nomatch h
  | _ :: _, _ :: _, h => .cons (List.cons.inj h).1 (of_map_eq (List.cons.inj h).2)

theorem Forall2.map_left {α α' β} {R : α' → β → Prop} (f : α → α') : ∀ {l : List α} {l' : List β},
    Forall2 (fun a b => R (f a) b) l l' → Forall2 R (l.map f) l' := by
  intro l l' h
  induction h with
  | nil => exact Forall2.nil
  | cons h0 _ ih => exact Forall2.cons h0 ih

theorem Forall2.of_map_left {α α' β} {R : α' → β → Prop} (f : α → α') : ∀ {l : List α} {l' : List β},
    Forall2 R (l.map f) l' → Forall2 (fun a b => R (f a) b) l l' := by
  intro l
  induction l with
  | nil => intro l' h; cases h; exact .nil
  | cons a t ih => intro l' h; cases h with | cons h0 ht => exact .cons h0 (ih ht)

theorem Forall2.filter_agree {α β} {R : α → β → Prop} (P : α → Bool) (Q : β → Bool) (hPQ : ∀ a b, R a b → P a = Q b) :
    ∀ {l : List α} {l' : List β}, Forall2 R l l' → Forall2 R (l.filter P) (l'.filter Q) := by
  intro l l' h
  induction h with
  | nil => exact Forall2.nil
  | @cons a b l l' h0 _ ih =>
    simp only [List.filter_cons]
    rw [← hPQ a b h0]
    cases P a
    · exact ih
    · exact Forall2.cons h0 ih

theorem Forall2.filter_filterMap {α β γ} {R : α → β → Prop} {Q : α → γ → Prop} (sel : α → Bool) (F : β → Option γ)
    (h : ∀ a b, R a b → if sel a then ∃ d, F b = some d ∧ Q a d else F b = none) :
    ∀ {l : List α} {l' : List β}, Forall2 R l l' → Forall2 Q (l.filter sel) (l'.filterMap F) := by
  intro l l' hh
  induction hh with
  | nil => exact .nil
  | @cons a b l l' h0 _ ih =>
    have := h a b h0
    simp only [List.filter_cons, List.filterMap_cons]
    split at this
    · obtain ⟨d, hd, hq⟩ := this
      rw [if_pos ‹_›, hd]
      exact .cons hq ih
    · rw [if_neg ‹_›, this]
      exact ih

theorem Forall2.filterMap_eq_map {α ρ τ} {R : α → ρ → Prop} (F : ρ → Option τ) (g : α → τ)
    (h : ∀ a r, R a r → F r = some (g a)) {l : List α} {rows : List ρ} (hh : Forall2 R l rows) : rows.filterMap F = l.map g := by
  induction hh with
  | nil => rfl
  | cons h0 _ ih => rw [List.filterMap_cons, h _ _ h0, List.map_cons, ih]

theorem Forall2.filterMap_zip {α β γ} {R : α → β → Prop} (G : α → Option γ) (W : α → β → γ)
    (h : ∀ a b, R a b → G a = some (W a b)) : ∀ {l : List α} {l' : List β}, Forall2 R l l' →
      l.filterMap G = (l.zip l').map (fun p => W p.1 p.2) := by
  intro l l' hh
  induction hh with
  | nil => rfl
  | cons h0 _ ih => simp only [List.filterMap_cons, h _ _ h0, List.zip_cons_cons, List.map_cons, ih]

theorem Forall2.filter_flatten {α β} (key : α → Nat) (owner : β → Nat) {rows : List α} {chunks : List (List β)}
    (h : Forall2 (fun r ch => ∀ f ∈ ch, owner f = key r) rows chunks) :
    ∀ (pre : List β), rows.Pairwise (fun a b => key a ≠ key b) → (∀ f ∈ pre, ∀ r ∈ rows, owner f ≠ key r) →
      Forall2 (fun r ch => (pre ++ chunks.flatten).filter (fun f => owner f == key r) = ch) rows chunks := by
  induction h with
  | nil => intro _ _ _; exact .nil
  | @cons r0 ch0 rows chunks h0 hrest ih =>
    intro pre hd hpre
    rw [List.pairwise_cons] at hd
    refine .cons ?_ ?_
    · rw [List.flatten_cons, List.filter_append, List.filter_append,
        List.filter_eq_nil_iff.mpr (fun f hf => by simpa using hpre f hf r0 List.mem_cons_self),
        List.filter_eq_self.mpr (fun f hf => by simpa using h0 f hf), List.filter_eq_nil_iff.mpr ?_, List.nil_append, List.append_nil]
      intro f hf
      obtain ⟨ch, hch, hfc⟩ := List.mem_flatten.mp hf
      obtain ⟨r, hr, hrf⟩ := Forall2.exists_of_mem_right hrest ch hch
      simpa [hrf f hfc] using (hd.1 r hr).symm
    · -- for the later rows, `ch0` joins the rows that point elsewhere
      have := ih (pre ++ ch0) hd.2 (fun f hf r hr => by
        rcases List.mem_append.mp hf with hf | hf
        · exact hpre f hf r (List.mem_cons_of_mem _ hr)
        · rw [h0 f hf]; exact hd.1 r hr)
      simpa only [List.flatten_cons, List.append_assoc] using this

theorem Forall2.filter_owner {π ρ κ} [BEq κ] [LawfulBEq κ] {R : π → ρ → Prop} {look : κ → Option Nat}
    (hinj : ∀ i j x, look i = some x → look j = some x → i = j) (owner : ρ → Nat) (oid : π → κ)
    (hR : ∀ p r, R p r → look (oid p) = some (owner r)) {sid : κ} {x0 : Nat} (hx0 : look sid = some x0)
    {pairs : List π} {rows : List ρ} (h : Forall2 R pairs rows) :
    Forall2 R (pairs.filter (fun p => oid p == sid)) (rows.filter (fun r => owner r == x0)) :=
  Forall2.filter_agree _ _ (fun p r hr => (beq_of_injective_lookup hinj (hR p r hr) hx0).symm) h

end WnVerif
