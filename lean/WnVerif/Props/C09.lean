/-
C09 — word-form search follows the exact / normalized / lemmatized procedure.
The normalizer `norm` is a parameter: every theorem holds for any normalizer.  The form condition of the `find_*`
queries; the two passes of `_find_helper`, each read off one equation (`findHelper_eq`: over the lemmatizer's
`proposals`, the de-duplicated first pass, or the normalised second pass when the first finds nothing); a form query as
a filter of the unrestricted listing and, with `C01_words_end_to_end`, an exact query after `add`, end to end.
-/
import WnVerif.Model.Api
import WnVerif.Model.Add
import WnVerif.Lemmas.DbAux
import WnVerif.Props.C01
namespace WnVerif.Props.C09
open WnVerif.Db

/-- the form condition of the three `find_*` queries: a stored form of the entry equals one of
the searched strings, or (normalizer active) its stored normalized form does; only the lemma
(rank 0) counts when `search_all_forms` is off -/
theorem C09_form_condition (db : Db) (forms : List String) (normalized allForms : Bool) (entry : Nat) :
    formMatch db forms normalized allForms entry = true ↔
      ∃ f ∈ db.forms, f.entry = entry ∧
        (f.form ∈ forms ∨ (normalized = true ∧ ∃ n, f.norm = some n ∧ n ∈ forms)) ∧
        (allForms = true ∨ f.rank = 0) := by
  have hn : ∀ o : Option String, (match o with | some n => forms.contains n | none => false) = true ↔
      ∃ n, o = some n ∧ n ∈ forms := by
    rintro (_ | n) <;> simp
  simp only [formMatch, List.any_eq_true, Bool.and_eq_true, Bool.or_eq_true, beq_iff_eq, List.contains_iff_mem, and_assoc]
  constructor
  · rintro ⟨f, hf, he, hm, hr⟩
    exact ⟨f, hf, he, hm.imp_right (And.imp_right (hn f.norm).mp), hr⟩
  · rintro ⟨f, hf, he, hm, hr⟩
    exact ⟨f, hf, he, hm.imp_right (And.imp_right (hn f.norm).mpr), hr⟩

/-- with `search_all_forms` off only a lemma (rank 0) can make an entry match -/
theorem C09_lemma_only (db : Db) (forms : List String) (normalized : Bool) (entry : Nat) :
    formMatch db forms normalized false entry = true →
      ∃ f ∈ db.forms, f.entry = entry ∧ f.rank = 0 := by
  intro h
  obtain ⟨f, hf, he, _, hr⟩ := (C09_form_condition db forms normalized false entry).mp h
  exact ⟨f, hf, he, by simpa using hr⟩

variable {α : Type}

/-- what the lemmatizer contributes: its proposals, or the query itself when it proposes nothing -/
def proposals (lemmatize : Option (String → Option String → LemResult)) (form : String) (pos : Option String) : LemResult :=
  match lemmatize with
  | some f => let r := f form pos; if r.isEmpty then [(pos, [form])] else r
  | none => [(pos, [form])]

theorem findHelper_eq (query : List String → Option String → List α) (rowid : α → Nat) (w : Wordnet)
    (norm : String → String) (lemmatize) (form : String) (pos : Option String) :
    findHelper query rowid w norm lemmatize form pos =
      dedupBy rowid
        (if ((proposals lemmatize form pos).flatMap (fun (p, fs) => query fs p)).isEmpty && w.normalizer
         then (proposals lemmatize form pos).flatMap (fun (p, fs) => query (fs.map norm) p)
         else (proposals lemmatize form pos).flatMap (fun (p, fs) => query fs p)) := by
  unfold findHelper proposals dedupRowid
  cases lemmatize <;> rfl

/-- when the first pass finds something, the result is the (de-duplicated) union over the proposed (pos, forms) pairs
of the exact / normalized-column matches: the query itself is *not* normalized -/
theorem C09_first_pass (query : List String → Option String → List α) (rowid : α → Nat) (w : Wordnet)
    (norm : String → String) (lemmatize) (form : String) (pos : Option String)
    (h : (proposals lemmatize form pos).flatMap (fun (p, fs) => query fs p) ≠ []) :
    findHelper query rowid w norm lemmatize form pos =
      dedupBy rowid ((proposals lemmatize form pos).flatMap (fun (p, fs) => query fs p)) := by
  rw [findHelper_eq, List.isEmpty_eq_false_iff.mpr h, Bool.false_and, if_neg Bool.false_ne_true]

/-- only if the first pass finds nothing (over *all* proposals) and a normalizer is active is the query normalized and
matched again -/
theorem C09_backoff (query : List String → Option String → List α) (rowid : α → Nat) (w : Wordnet)
    (norm : String → String) (lemmatize) (form : String) (pos : Option String)
    (h : (proposals lemmatize form pos).flatMap (fun (p, fs) => query fs p) = []) :
    findHelper query rowid w norm lemmatize form pos =
      if w.normalizer then dedupBy rowid ((proposals lemmatize form pos).flatMap (fun (p, fs) => query (fs.map norm) p))
      else [] := by
  rw [findHelper_eq, h, List.isEmpty_nil, Bool.true_and]
  cases w.normalizer <;> rfl

theorem C09_no_lemmatizer (form : String) (pos : Option String) : proposals none form pos = [(pos, [form])] := rfl

theorem C09_lemmatizer_empty (f : String → Option String → LemResult) (form : String) (pos : Option String)
    (h : f form pos = []) : proposals (some f) form pos = [(pos, [form])] := by
  simp [proposals, h]

theorem C09_nodup (query : List String → Option String → List α) (rowid : α → Nat) (w : Wordnet)
    (norm : String → String) (lemmatize) (form : String) (pos : Option String) :
    ((findHelper query rowid w norm lemmatize form pos).map rowid).Nodup := by
  rw [findHelper_eq]; exact dedupBy_nodup rowid _

/-- every result is found by some proposed (pos, forms) pair, in the first pass or (with the forms normalized) in the
back-off -/
theorem C09_sound (query : List String → Option String → List α) (rowid : α → Nat) (w : Wordnet)
    (norm : String → String) (lemmatize) (form : String) (pos : Option String) (x : α)
    (hx : x ∈ findHelper query rowid w norm lemmatize form pos) :
    ∃ pf ∈ proposals lemmatize form pos, x ∈ query pf.2 pf.1 ∨ (w.normalizer = true ∧ x ∈ query (pf.2.map norm) pf.1) := by
  rw [findHelper_eq] at hx
  have hx' := mem_dedupBy rowid _ x hx
  split at hx'
  · rename_i hc
    simp only [Bool.and_eq_true] at hc
    obtain ⟨pf, hpf, hq⟩ := List.mem_flatMap.mp hx'
    exact ⟨pf, hpf, Or.inr ⟨hc.2, hq⟩⟩
  · obtain ⟨pf, hpf, hq⟩ := List.mem_flatMap.mp hx'
    exact ⟨pf, hpf, Or.inl hq⟩

/-- everything any proposed pair finds in the first pass is in the result (up to identity of the stored entity); for the
back-off pass the same is read off `C09_backoff` -/
theorem C09_union_complete (query : List String → Option String → List α) (rowid : α → Nat) (w : Wordnet)
    (norm : String → String) (lemmatize) (form : String) (pos : Option String)
    (pf : Option String × List String) (hpf : pf ∈ proposals lemmatize form pos) (x : α) (hx : x ∈ query pf.2 pf.1) :
    ∃ y ∈ findHelper query rowid w norm lemmatize form pos, rowid y = rowid x := by
  have hmem : x ∈ (proposals lemmatize form pos).flatMap (fun (p, fs) => query fs p) :=
    List.mem_flatMap.mpr ⟨pf, hpf, hx⟩
  rw [C09_first_pass query rowid w norm lemmatize form pos (List.ne_nil_of_mem hmem)]
  exact key_mem_dedupBy rowid _ x hmem

/-- `normalized_form` is stored only when it differs from the form (`_insert_forms`) -/
theorem C09_norm_column (db : Db) (norm : String → String) (lexid entry : Nat) (id : Option String)
    (form : String) (script : Option String) (rank : Nat) (db' : Db)
    (h : addForm db norm lexid entry id form script rank = .ok db') :
    ∃ row, db'.forms = db.forms ++ [row] ∧ row.form = form ∧ row.entry = entry ∧ row.rank = rank ∧
      row.norm = (if norm form = form then none else some (norm form)) := by
  refine ⟨_, congrArg Db.forms (addForm_ok h), rfl, rfl, rfl, ?_⟩
  by_cases e : norm form = form <;> simp [e]

/-- `Db.sortBy_filter`, under the name of this property -/
theorem sortBy_filter {α} (key : α → Nat) (p : α → Bool) (l : List α) :
    (sortBy key l).filter p = sortBy key (l.filter p) :=
  Db.sortBy_filter key p l

/-- `words(form, …)` returns exactly those words of the unrestricted listing `words(…)` (same id / part-of-speech /
lexicon arguments) that have a stored form matching one of the searched strings, in the same order, on every database,
with or without normalised matching and `search_all_forms` -/
theorem C09_words_form_query_is_a_filter (db : Db) (id : Option String) (forms : List String) (pos : Option String)
    (S : List Nat) (n a : Bool) :
    findEntries db id forms pos S n a =
      (findEntries db id [] pos S n a).filter (fun w => forms.isEmpty || formMatch db forms n a w.rowid) := by
  unfold findEntries
  dsimp only
  rw [filterMap_filter_comm _ _ (fun e : REntry => forms.isEmpty || formMatch db forms n a e.rowid)]
  · rw [sortBy_filter, List.filter_filter]
    congr 2
    apply List.filter_congr
    intro e _
    simp only [List.isEmpty_nil, Bool.true_or, Bool.and_true]
    cases (forms.isEmpty || formMatch db forms n a e.rowid) <;> simp
  · intro e w hg
    split at hg
    · simp at hg
    · simp only [Option.some.injEq] at hg
      subst hg
      rfl

section EndToEnd
open WnVerif.Doc

theorem formMatch_of_listed {db : Db} {id : Option String} {forms0 : List String} {pos : Option String} {S : List Nat}
    {n0 a0 : Bool} {w : WordData} (hw : w ∈ findEntries db id forms0 pos S n0 a0) (qs : List String) :
    formMatch db qs false true w.rowid = w.forms.any (fun f => qs.contains f.form) := by
  obtain ⟨e, -, -, hr, -, -, -, hfs, -⟩ := mem_findEntries hw
  rw [hfs, hr, List.any_map, (sortBy_perm (fun (x : RForm) => x.rank) _).any_eq]
  unfold formMatch
  rw [List.any_filter]
  congr 1
  funext f
  simp [Function.comp]

/-- with `C01_words_end_to_end`: after a successful `add` of a plain lexicon, an exact (non-normalising, all-forms)
query for the strings `qs` in the new lexicon returns exactly the document's entries that have one of `qs` as lemma or
further form, in document order, each with id, part of speech and forms as `words()` reports them -/
theorem C09_exact_query_end_to_end (norm : String → String) (dr : Nat) (db db' : Db) (l : Lexicon)
    (h : addLexicon norm dr db l = .ok db') (hext : l.ext = none) (hx : ∀ e ∈ l.entries, e.external = false)
    (hfkE : ∀ o ∈ db.entries, o.lex ∈ db.lexicons.map (·.rowid))
    (hfkF : ∀ f ∈ db.forms, f.entry ∈ db.entries.map (·.rowid)) (qs : List String) (hq : qs ≠ []) :
    (findEntries db' none qs none [nextId (db.lexicons.map (·.rowid))] false true).map C01.obsWord =
      (l.entries.map C01.docWord).filter (fun o => o.2.2.any (fun f => qs.contains f.1)) := by
  have hw := C01.C01_words_end_to_end norm dr db db' l h hext hx hfkE hfkF
  rw [C09_words_form_query_is_a_filter, ← hw, List.filter_map]
  congr 1
  apply List.filter_congr
  intro w hwm
  have hqe : qs.isEmpty = false := by simpa [List.isEmpty_iff] using hq
  rw [formMatch_of_listed hwm qs]
  simp [hqe, C01.obsWord, List.any_map]
  rfl

end EndToEnd

end WnVerif.Props.C09
