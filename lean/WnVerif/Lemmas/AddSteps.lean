/- The insert steps and passes of `Model/Add.lean`, each characterised once.

A successful single-row step is exactly: its look-ups succeeded, and the store is the old one with one
row appended to one table (`*_ok`).  A pass (`insert*`) therefore rewrites only its own tables
(`*_writes`; for passes made of several loops, `*_split` also names the store between the loops).
What is proved about the passes of `addLexicon` is derived from these equations: a projection of
`{ b with senses := S }` other than `senses` reduces to that of `b` by `rfl`.  Not here: `collectFrames` (nothing is
proved about it; its result stays a variable), `updateLookups` (`lookupInsert_*` in `Lemmas/DbAux`, `AddTrace.reltypes_eq`). -/
import WnVerif.Model.Add
import WnVerif.Lemmas.ForIn
import WnVerif.Lemmas.Forall2
namespace WnVerif.Db
open WnVerif WnVerif.Doc

theorem need_ok {α} {msg : String} {o : Option α} {a : α} : need msg o = .ok a ↔ o = some a := by
  cases o <;> simp [need]

theorem bind_ok {α β} {x : R α} {f : α → R β} {y : β} (h : x >>= f = .ok y) : ∃ a, x = .ok a ∧ f a = .ok y := by
  cases x with
  | error e => cases h
  | ok a => exact ⟨a, rfl, h⟩

/-- a `UNIQUE` check (`if c then throw msg`) in front of the rest `jp` of a step, as `do` elaborates it -/
theorem guard_ok {β} {c : Prop} [Decidable c] {msg : String} {jp : PUnit → R β} {y : β}
    (h : (if c then throw msg >>= jp else jp ()) = .ok y) : ¬c ∧ jp () = .ok y := by
  by_cases hc : c
  · rw [if_pos hc] at h; cases h
  · rw [if_neg hc] at h; exact ⟨hc, h⟩

theorem presupStep_ok {p : Nat} {b b' : Db} {ss : Synset} (h : presupStep p b ss = .ok b') :
    (b' = b ∧ ((ss.ili != "" && ss.ili != "in") = true → ∃ x ∈ b.ilis, x.id = ss.ili)) ∨
    ((∀ y ∈ b.ilis, y.id ≠ ss.ili) ∧ b' = { b with ilis := b.ilis ++ [{
      rowid := nextId (b.ilis.map (·.rowid)), id := ss.ili, status := p,
      definition := ss.iliDef.map (·.text), md := ss.iliDef.bind (·.md) }] }) := by
  unfold presupStep at h
  split at h
  · split at h
    · rename_i hn
      exact .inr ⟨by simpa using hn, (Except.ok.inj h).symm⟩
    · rename_i hany
      exact .inl ⟨(Except.ok.inj h).symm, fun _ => by simpa using hany⟩
  · rename_i hc
    exact .inl ⟨(Except.ok.inj h).symm, fun hc' => absurd hc' hc⟩

theorem synsetStep_ok {c : Ctx} {b b' : Db} {ss : Synset} (h : synsetStep c b ss = .ok b') :
    ∃ pos, ss.pos = some pos ∧
      b' = { b with synsets := b.synsets ++ [{
        rowid := nextId (b.synsets.map (·.rowid)), id := ss.id, lex := c.lexid,
        ili := if ss.ili != "" && ss.ili != "in" then (b.ilis.find? (fun r => r.id == ss.ili)).map (·.rowid) else none,
        pos := pos, lexicalized := boolOr ss.lexicalized true,
        lexfile := (match ss.lexfile with | some f => lookupId b.lexfiles f | none => none), md := ss.md }] } := by
  unfold synsetStep at h
  obtain ⟨pos, hp, h⟩ := bind_ok h
  exact ⟨pos, need_ok.mp hp, (Except.ok.inj h).symm⟩

theorem piliStep_ok {c : Ctx} {b b' : Db} {ss : Synset} (h : piliStep c b ss = .ok b') :
    (ss.ili ≠ "in" ∧ b' = b) ∨
    (ss.ili = "in" ∧ ∃ sr, synsetRow b ss.id c.lexid = some sr ∧ b.pilis.any (fun r => r.synset == sr) = false ∧
      b' = { b with pilis := b.pilis ++ [{
        rowid := nextId (b.pilis.map (·.rowid)), synset := sr,
        definition := ss.iliDef.map (·.text), md := ss.iliDef.bind (·.md) }] }) := by
  unfold piliStep at h
  split at h
  · obtain ⟨sr, hs, h⟩ := bind_ok h
    obtain ⟨ha, h⟩ := guard_ok h
    exact .inr ⟨eq_of_beq ‹_›, sr, need_ok.mp hs, (Bool.not_eq_true _).mp ha, (Except.ok.inj h).symm⟩
  · exact .inl ⟨fun e => ‹¬(ss.ili == "in") = true› (beq_iff_eq.mpr e), (Except.ok.inj h).symm⟩

theorem entryStep_ok {c : Ctx} {b b' : Db} {e : Entry} (h : entryStep c b e = .ok b') :
    ∃ lem, e.lemma = some lem ∧ entryRow b e.id c.lexid = none ∧
      b' = { b with entries := b.entries ++ [{
        rowid := nextId (b.entries.map (·.rowid)), id := e.id, lex := c.lexid, pos := lem.pos, md := e.md }] } := by
  unfold entryStep at h
  obtain ⟨lem, hl, h⟩ := bind_ok h
  obtain ⟨hnone, h⟩ := guard_ok h
  exact ⟨lem, need_ok.mp hl, by simpa using hnone, (Except.ok.inj h).symm⟩

theorem addForm_ok {b b' : Db} {norm : String → String} {lexid er : Nat} {id : Option String} {form : String}
    {script : Option String} {rank : Nat} (h : addForm b norm lexid er id form script rank = .ok b') :
    b' = { b with forms := b.forms ++ [{
      rowid := nextId (b.forms.map (·.rowid)), id := id, lex := lexid, entry := er, form := form,
      norm := if norm form != form then some (norm form) else none, script := script, rank := rank }] } := by
  unfold addForm at h
  exact (Except.ok.inj (guard_ok h).2).symm

theorem formStep_ok {norm : String → String} {c : Ctx} {e : Entry} {b b' : Db} {fi : Form × Nat}
    (h : formStep norm c e b fi = .ok b') :
    (fi.1.external = true ∧ b' = b) ∨
    (fi.1.external = false ∧ ∃ er, entryRow b e.id (c.lid e.id) = some er ∧
      addForm b norm c.lexid er fi.1.id fi.1.form fi.1.script (fi.2 + 1) = .ok b') := by
  unfold formStep at h
  split at h
  · exact .inl ⟨‹_›, (Except.ok.inj h).symm⟩
  · obtain ⟨er, he, h⟩ := bind_ok h
    exact .inr ⟨by simpa using ‹¬fi.1.external = true›, er, need_ok.mp he, h⟩

theorem entryFormsStep_ok {norm : String → String} {c : Ctx} {b b' : Db} {e : Entry}
    (h : entryFormsStep norm c b e = .ok b') :
    ∃ b1, e.forms.zipIdx.foldlM (formStep norm c e) b1 = .ok b' ∧
      ((e.external = true ∧ b1 = b) ∨
       (e.external = false ∧ ∃ lem er, e.lemma = some lem ∧ entryRow b e.id (c.lid e.id) = some er ∧
         addForm b norm c.lexid er none lem.form lem.script 0 = .ok b1)) := by
  unfold entryFormsStep at h
  split at h
  · obtain ⟨lem, hl, h⟩ := bind_ok h
    obtain ⟨er, he, h⟩ := bind_ok h
    obtain ⟨b1, h1, h2⟩ := bind_ok h
    exact ⟨b1, h2, .inr ⟨by simpa using ‹(!e.external) = true›, lem, er, need_ok.mp hl, need_ok.mp he, h1⟩⟩
  · obtain ⟨b1, h1, h2⟩ := bind_ok h
    cases h1
    exact ⟨b, h2, .inl ⟨by simpa using ‹¬(!e.external) = true›, rfl⟩⟩

theorem pronStep_ok {c : Ctx} {e : Entry} {fid : Option String} {rank : Option Nat} {b b' : Db} {p : Pron}
    (h : pronStep c e fid rank b p = .ok b') :
    ∃ fr, formRow b e.id (c.lid e.id) fid rank = some fr ∧
      b' = { b with prons := b.prons ++ [{
        form := fr, value := p.text, variety := p.variety, notat := p.notat,
        phonemic := boolOr p.phonemic true, audio := p.audio }] } := by
  unfold pronStep at h
  obtain ⟨fr, hf, h⟩ := bind_ok h
  exact ⟨fr, need_ok.mp hf, (Except.ok.inj h).symm⟩

theorem tagStep_ok {c : Ctx} {e : Entry} {fid : Option String} {rank : Option Nat} {b b' : Db} {t : Tag}
    (h : tagStep c e fid rank b t = .ok b') :
    ∃ fr, formRow b e.id (c.lid e.id) fid rank = some fr ∧
      b' = { b with tags := b.tags ++ [{ form := fr, tag := t.text, category := t.category }] } := by
  unfold tagStep at h
  obtain ⟨fr, hf, h⟩ := bind_ok h
  exact ⟨fr, need_ok.mp hf, (Except.ok.inj h).symm⟩

theorem senseStep_ok {l : Lexicon} {c : Ctx} {dr : Nat} {e : Entry} {b b' : Db} {si : Sense × Nat}
    (h : senseStep l c dr e b si = .ok b') :
    ∃ er sr, entryRow b e.id (c.lid e.id) = some er ∧ synsetRow b si.1.synset (c.lid si.1.synset) = some sr ∧
      b' = { b with senses := b.senses ++ [{
        rowid := nextId (b.senses.map (·.rowid)), id := si.1.id, lex := c.lexid, entry := er, erank := si.2,
        synset := sr, srank := memberRank l dr si.1.id, lexicalized := boolOr si.1.lexicalized true, md := si.1.md }] } := by
  unfold senseStep at h
  obtain ⟨er, he, h⟩ := bind_ok h
  obtain ⟨sr, hs, h⟩ := bind_ok h
  exact ⟨er, sr, need_ok.mp he, need_ok.mp hs, (Except.ok.inj h).symm⟩

theorem adjStep_ok {c : Ctx} {b b' : Db} {s : Sense} (h : adjStep c b s = .ok b') :
    b' = b ∨ ∃ a sr, s.adjposition = some a ∧ a ≠ "" ∧ senseRow b s.id (c.lid s.id) = some sr ∧
      b' = { b with adjs := b.adjs ++ [{ sense := sr, adjposition := a }] } := by
  unfold adjStep at h
  split at h
  · rename_i a ha
    split at h
    · obtain ⟨sr, hs, h⟩ := bind_ok h
      exact .inr ⟨a, sr, ha, by simpa using ‹(a != "") = true›, need_ok.mp hs, (Except.ok.inj h).symm⟩
    · exact .inl (Except.ok.inj h).symm
  · exact .inl (Except.ok.inj h).symm

theorem countStep_ok {c : Ctx} {s : Sense} {b b' : Db} {cnt : Count} (h : countStep c s b cnt = .ok b') :
    ∃ sr, senseRow b s.id (c.lid s.id) = some sr ∧
      b' = { b with counts := b.counts ++ [{
        rowid := nextId (b.counts.map (·.rowid)), lex := c.lexid, sense := sr, value := cnt.value, md := cnt.md }] } := by
  unfold countStep at h
  obtain ⟨sr, hs, h⟩ := bind_ok h
  exact ⟨sr, need_ok.mp hs, (Except.ok.inj h).symm⟩

theorem sbStep_ok {c : Ctx} {b b' : Db} {sb : Sb} (h : sbStep c b sb = .ok b') :
    b.sbs.any (fun r => r.lex == c.lexid && r.frame == sb.frame) = false ∧
    b' = { b with sbs := b.sbs ++ [{
      rowid := nextId (b.sbs.map (·.rowid)),
      id := (match sb.id with | some i => if i == "" then none else some i | none => none),
      lex := c.lexid, frame := sb.frame }] } := by
  unfold sbStep at h
  obtain ⟨-, h⟩ := guard_ok h
  obtain ⟨hfr, h⟩ := guard_ok h
  exact ⟨by simpa using hfr, (Except.ok.inj h).symm⟩

theorem sbSenseStep_ok {c : Ctx} {sb : Sb} {b b' : Db} {sid : String} (h : sbSenseStep c sb b sid = .ok b') :
    ∃ sbr sr, (b.sbs.find? (fun r => r.lex == c.lexid && r.frame == sb.frame)).map (·.rowid) = some sbr ∧
      senseRow b sid (c.lid sid) = some sr ∧ b' = { b with sbsenses := b.sbsenses ++ [{ sb := sbr, sense := sr }] } := by
  unfold sbSenseStep at h
  obtain ⟨sbr, h1, h⟩ := bind_ok h
  obtain ⟨sr, h2, h⟩ := bind_ok h
  exact ⟨sbr, sr, need_ok.mp h1, need_ok.mp h2, (Except.ok.inj h).symm⟩

theorem synRelStep_ok {c : Ctx} {ss : Synset} {b b' : Db} {r : Relation} (h : synRelStep c ss b r = .ok b') :
    ∃ src tgt ty, synsetRow b ss.id (c.lid ss.id) = some src ∧ synsetRow b r.target (c.lid r.target) = some tgt ∧
      lookupId b.reltypes r.relType = some ty ∧
      b' = { b with synrels := b.synrels ++ [{
        rowid := nextId (b.synrels.map (·.rowid)), lex := c.lexid, source := src, target := tgt, type := ty, md := r.md }] } := by
  unfold synRelStep at h
  obtain ⟨src, h1, h⟩ := bind_ok h
  obtain ⟨tgt, h2, h⟩ := bind_ok h
  obtain ⟨ty, h3, h⟩ := bind_ok h
  exact ⟨src, tgt, ty, need_ok.mp h1, need_ok.mp h2, need_ok.mp h3, (Except.ok.inj h).symm⟩

theorem senseRelStep_ok {c : Ctx} {b b' : Db} {p : String × Relation} (h : senseRelStep c b p = .ok b') :
    ∃ src tgt ty, senseRow b p.1 (c.lid p.1) = some src ∧ senseRow b p.2.target (c.lid p.2.target) = some tgt ∧
      lookupId b.reltypes p.2.relType = some ty ∧
      b' = { b with senserels := b.senserels ++ [{
        rowid := nextId (b.senserels.map (·.rowid)), lex := c.lexid, source := src, target := tgt, type := ty, md := p.2.md }] } := by
  unfold senseRelStep at h
  obtain ⟨src, h1, h⟩ := bind_ok h
  obtain ⟨tgt, h2, h⟩ := bind_ok h
  obtain ⟨ty, h3, h⟩ := bind_ok h
  exact ⟨src, tgt, ty, need_ok.mp h1, need_ok.mp h2, need_ok.mp h3, (Except.ok.inj h).symm⟩

theorem senseSynRelStep_ok {c : Ctx} {b b' : Db} {p : String × Relation} (h : senseSynRelStep c b p = .ok b') :
    ∃ src tgt ty, senseRow b p.1 (c.lid p.1) = some src ∧ synsetRow b p.2.target (c.lid p.2.target) = some tgt ∧
      lookupId b.reltypes p.2.relType = some ty ∧
      b' = { b with sensesynrels := b.sensesynrels ++ [{
        rowid := nextId (b.sensesynrels.map (·.rowid)), lex := c.lexid, source := src, target := tgt, type := ty, md := p.2.md }] } := by
  unfold senseSynRelStep at h
  obtain ⟨src, h1, h⟩ := bind_ok h
  obtain ⟨tgt, h2, h⟩ := bind_ok h
  obtain ⟨ty, h3, h⟩ := bind_ok h
  exact ⟨src, tgt, ty, need_ok.mp h1, need_ok.mp h2, need_ok.mp h3, (Except.ok.inj h).symm⟩

theorem defStep_ok {c : Ctx} {ss : Synset} {b b' : Db} {d : Definition} (h : defStep c ss b d = .ok b') :
    ∃ sr, synsetRow b ss.id (c.lid ss.id) = some sr ∧
      b' = { b with defs := b.defs ++ [{
        rowid := nextId (b.defs.map (·.rowid)), lex := c.lexid, synset := sr, text := d.text, language := d.language,
        sense := (match d.sourceSense with | some s => senseRow b s (c.lid s) | none => none), md := d.md }] } := by
  unfold defStep at h
  obtain ⟨sr, h1, h⟩ := bind_ok h
  exact ⟨sr, need_ok.mp h1, (Except.ok.inj h).symm⟩

theorem senseExampleStep_ok {c : Ctx} {s : Sense} {b b' : Db} {x : Example} (h : senseExampleStep c s b x = .ok b') :
    ∃ sr, senseRow b s.id (c.lid s.id) = some sr ∧
      b' = { b with sensexs := b.sensexs ++ [{
        rowid := nextId (b.sensexs.map (·.rowid)), lex := c.lexid, owner := sr, text := x.text, language := x.language, md := x.md }] } := by
  unfold senseExampleStep at h
  obtain ⟨sr, h1, h⟩ := bind_ok h
  exact ⟨sr, need_ok.mp h1, (Except.ok.inj h).symm⟩

theorem synsetExampleStep_ok {c : Ctx} {ss : Synset} {b b' : Db} {x : Example} (h : synsetExampleStep c ss b x = .ok b') :
    ∃ sr, synsetRow b ss.id (c.lid ss.id) = some sr ∧
      b' = { b with synexs := b.synexs ++ [{
        rowid := nextId (b.synexs.map (·.rowid)), lex := c.lexid, owner := sr, text := x.text, language := x.language, md := x.md }] } := by
  unfold synsetExampleStep at h
  obtain ⟨sr, h1, h⟩ := bind_ok h
  exact ⟨sr, need_ok.mp h1, (Except.ok.inj h).symm⟩

/-- `c.lid i` is the lexicon the id `i` is resolved in -/
theorem Ctx.lid_cases (c : Ctx) (i : String) : c.lid i = c.lexid ∨ c.lid i = c.extid := by
  unfold Ctx.lid
  split
  · exact .inr rfl
  · exact .inl rfl

theorem Ctx.lid_of_plain {c : Ctx} (h : c.extid = c.lexid) (i : String) : c.lid i = c.lexid := by
  unfold Ctx.lid
  split
  · exact h
  · rfl

/-- a loop whose steps rewrite only what `set` can express rewrites only that -/
theorem foldlM_writes {σ α} (set : Db → σ → Db) {f : Db → α → R Db}
    (hf : ∀ b a b', f b a = .ok b' → ∃ s, b' = set b s) {l : List α} {b b' : Db} (h : l.foldlM f b = .ok b')
    (hid : ∀ b, ∃ s, b = set b s := by exact fun b => ⟨_, rfl⟩)
    (hcomp : ∀ b s s', set (set b s) s' = set b s' := by exact fun _ _ _ => rfl) : ∃ s, b' = set b s := by
  refine foldlM_ok_induct f (fun _ b b' => ∃ s, b' = set b s) hid ?_ l b b' h
  rintro a t b b1 b' h1 - ⟨s', rfl⟩
  obtain ⟨s, rfl⟩ := hf b a b1 h1
  exact ⟨s', hcomp b s s'⟩

theorem foldlM_inv {α} (I : Db → Prop) {f : Db → α → R Db} (hstep : ∀ b a b', f b a = .ok b' → I b → I b')
    {l : List α} {b b' : Db} (h : l.foldlM f b = .ok b') : I b → I b' :=
  foldlM_ok_induct f (fun _ b b' => I b → I b') (fun _ hb => hb)
    (fun a _ b b1 _ h1 _ ih hb => ih (hstep b a b1 h1 hb)) l b b' h

/-- Rows against the document.  `tbl` is the table the loop appends to, `frame` what its steps read and leave alone
(so `Rel` may speak of it); one row per item (`foldlM_rowsL`: a block of rows per item; `foldlM_writes_rows1`: the same
as an equation between stores). -/
theorem foldlM_rows1 {α ρ β} (tbl : Db → List ρ) (frame : Db → β) (f : Db → α → R Db) (Rel : β → α → ρ → Prop)
    (hstep : ∀ b a b', f b a = .ok b' → frame b' = frame b ∧ ∃ r, tbl b' = tbl b ++ [r] ∧ Rel (frame b) a r) :
    ∀ (l : List α) (b b' : Db), l.foldlM f b = .ok b' →
      frame b' = frame b ∧ ∃ rows, tbl b' = tbl b ++ rows ∧ Forall2 (Rel (frame b)) l rows := by
  refine foldlM_ok_induct f _ (fun b => ⟨rfl, [], (List.append_nil _).symm, .nil⟩) ?_
  rintro a t b b1 b' h1 - ⟨hf2, rows, ht2, hrows⟩
  obtain ⟨hf1, r, ht1, hr⟩ := hstep b a b1 h1
  exact ⟨hf2.trans hf1, r :: rows, by rw [ht2, ht1, List.append_assoc]; rfl, .cons hr (hf1 ▸ hrows)⟩

theorem foldlM_writes_rows1 {α ρ β} (tbl : Db → List ρ) (set : Db → List ρ → Db) (frame : Db → β) {f : Db → α → R Db}
    {Rel : β → α → ρ → Prop}
    (hstep : ∀ b a b', f b a = .ok b' → ∃ r, b' = set b (tbl b ++ [r]) ∧ Rel (frame b) a r)
    {l : List α} {b b' : Db} (h : l.foldlM f b = .ok b')
    (hget : ∀ b T, tbl (set b T) = T := by exact fun _ _ => rfl)
    (hframe : ∀ b T, frame (set b T) = frame b := by exact fun _ _ => rfl)
    (hcomp : ∀ b T T', set (set b T) T' = set b T' := by exact fun _ _ _ => rfl)
    (hid : ∀ b, set b (tbl b) = b := by exact fun _ => rfl) :
    ∃ rows, b' = set b (tbl b ++ rows) ∧ Forall2 (Rel (frame b)) l rows := by
  refine foldlM_ok_induct f (fun l b b' => ∃ rows, b' = set b (tbl b ++ rows) ∧ Forall2 (Rel (frame b)) l rows)
    (fun b => ⟨[], by rw [List.append_nil, hid], .nil⟩) ?_ l b b' h
  rintro a t b b1 b' h1 - ⟨rows, rfl, hrows⟩
  obtain ⟨r, rfl, hr⟩ := hstep b a b1 h1
  exact ⟨r :: rows, by rw [hcomp, hget, List.append_assoc]; rfl, .cons hr (hframe b _ ▸ hrows)⟩

theorem foldlM_rowsL {α ρ β} (tbl : Db → List ρ) (frame : Db → β) (f : Db → α → R Db) (S : β → α → List ρ → Prop)
    (hstep : ∀ b a b', f b a = .ok b' → frame b' = frame b ∧ ∃ rs, tbl b' = tbl b ++ rs ∧ S (frame b) a rs) :
    ∀ (l : List α) (b b' : Db), l.foldlM f b = .ok b' →
      frame b' = frame b ∧ ∃ rss : List (List ρ), tbl b' = tbl b ++ rss.flatten ∧ Forall2 (S (frame b)) l rss := by
  refine foldlM_ok_induct f _ (fun b => ⟨rfl, [], (List.append_nil _).symm, .nil⟩) ?_
  rintro a t b b1 b' h1 - ⟨hf2, rss, ht2, hrows⟩
  obtain ⟨hf1, rs, ht1, hr⟩ := hstep b a b1 h1
  exact ⟨hf2.trans hf1, rs :: rss, by rw [ht2, ht1, List.append_assoc, List.flatten_cons], .cons hr (hf1 ▸ hrows)⟩

/-- a loop inside a loop is one loop over the concatenated inner lists -/
theorem foldlM_flatMap {m : Type → Type} [Monad m] [LawfulMonad m] {σ α π} (inner : α → List π) (g : σ → π → m σ) :
    ∀ (l : List α) (b : σ), l.foldlM (fun s a => (inner a).foldlM g s) b = (l.flatMap inner).foldlM g b
  | [], _ => rfl
  | a :: t, b => by
    rw [List.foldlM_cons, List.flatMap_cons, List.foldlM_append]
    exact bind_congr fun s => foldlM_flatMap inner g t s

/-- where the inner loop depends on the outer element, over the pairs -/
theorem foldlM_pairs {m : Type → Type} [Monad m] [LawfulMonad m] {σ α γ} (items : α → List γ) (f : α → σ → γ → m σ)
    (l : List α) (b : σ) : l.foldlM (fun s a => (items a).foldlM (f a) s) b =
      (l.flatMap fun a => (items a).map fun x => (a, x)).foldlM (fun s (p : α × γ) => f p.1 s p.2) b := by
  rw [← foldlM_flatMap]
  simp only [List.foldlM_map]

/-- `foldlM_rows1` for a loop still written as the model writes it, one loop inside the other -/
theorem foldlM_rows_nested {α γ ρ β} (tbl : Db → List ρ) (frame : Db → β) (items : α → List γ)
    (f : α → Db → γ → R Db) (Rel : β → α → γ → ρ → Prop)
    (hstep : ∀ a b x b', f a b x = .ok b' → frame b' = frame b ∧ ∃ r, tbl b' = tbl b ++ [r] ∧ Rel (frame b) a x r) :
    ∀ (l : List α) (b b' : Db), l.foldlM (fun db a => (items a).foldlM (f a) db) b = .ok b' →
      frame b' = frame b ∧ ∃ rows, tbl b' = tbl b ++ rows ∧
        Forall2 (fun (p : α × γ) r => Rel (frame b) p.1 p.2 r) (l.flatMap (fun a => (items a).map (fun x => (a, x)))) rows :=
  fun l b b' h => foldlM_rows1 tbl frame _ (fun fr (p : α × γ) r => Rel fr p.1 p.2 r) (fun b p b' => hstep p.1 b p.2 b') _ b b'
    (foldlM_pairs items f l b ▸ h)

/-- `T'` is the table `T` followed by new rows, each satisfying `P` -/
def GrowsBy {ρ} (P : ρ → Prop) (T T' : List ρ) : Prop := ∃ rows, T' = T ++ rows ∧ ∀ r ∈ rows, P r

theorem GrowsBy.imp {ρ} {P Q : ρ → Prop} {T T' : List ρ} (h : ∀ r, P r → Q r) (g : GrowsBy P T T') : GrowsBy Q T T' :=
  let ⟨rows, e, hp⟩ := g
  ⟨rows, e, fun r hr => h r (hp r hr)⟩

/-- from `b` to `b'` the `frame` is kept and `tbl` gains rows that satisfy `P`, which may speak of the frame and of
the table as it was -/
def Appends {ρ β} (tbl : Db → List ρ) (frame : Db → β) (P : β → List ρ → ρ → Prop) (b b' : Db) : Prop :=
  frame b' = frame b ∧ GrowsBy (P (frame b) (tbl b)) (tbl b) (tbl b')

theorem Appends.refl {ρ β} {tbl : Db → List ρ} {frame : Db → β} {P : β → List ρ → ρ → Prop} (b : Db) :
    Appends tbl frame P b b :=
  ⟨rfl, [], (List.append_nil _).symm, nofun⟩

theorem Appends.one {ρ β} {tbl : Db → List ρ} {frame : Db → β} {P : β → List ρ → ρ → Prop} {b b' : Db} {r : ρ}
    (hf : frame b' = frame b) (ht : tbl b' = tbl b ++ [r]) (hr : P (frame b) (tbl b) r) : Appends tbl frame P b b' :=
  ⟨hf, [r], ht, List.forall_mem_singleton.mpr hr⟩

/-- `P` has to survive shrinking the table it speaks of ("the rowid is not in it" does) -/
theorem Appends.trans {ρ β} {tbl : Db → List ρ} {frame : Db → β} {P : β → List ρ → ρ → Prop}
    (hP : ∀ fr T X r, P fr (T ++ X) r → P fr T r) {b b1 b' : Db}
    (h1 : Appends tbl frame P b b1) (h2 : Appends tbl frame P b1 b') : Appends tbl frame P b b' := by
  obtain ⟨hf1, rs1, ht1, hp1⟩ := h1
  obtain ⟨hf2, rs2, ht2, hp2⟩ := h2
  refine ⟨hf2.trans hf1, rs1 ++ rs2, by rw [ht2, ht1, List.append_assoc], fun r hr => ?_⟩
  rcases List.mem_append.mp hr with hr | hr
  · exact hp1 r hr
  · exact hP _ _ rs1 _ (hf1 ▸ ht1 ▸ hp2 r hr)

theorem Appends.foldlM {α ρ β} {tbl : Db → List ρ} {frame : Db → β} {P : β → List ρ → ρ → Prop}
    (hP : ∀ fr T X r, P fr (T ++ X) r → P fr T r) {f : Db → α → R Db}
    (hstep : ∀ b a b', f b a = .ok b' → Appends tbl frame P b b') {l : List α} {b b' : Db}
    (h : l.foldlM f b = .ok b') : Appends tbl frame P b b' :=
  foldlM_ok_induct f (fun _ b b' => Appends tbl frame P b b') Appends.refl
    (fun a _ b _ _ h1 _ ih => (hstep b a _ h1).trans hP ih) l b b' h

/-- owned by lexicon `l`, under a rowid that the table `T` does not use -/
def OwnedNew {ρ} (lex rowid : ρ → Nat) (l : Nat) (T : List ρ) (r : ρ) : Prop := lex r = l ∧ rowid r ∉ T.map rowid

theorem OwnedNew.shrink {ρ} {lex rowid : ρ → Nat} {l : Nat} {T X : List ρ} {r : ρ} (h : OwnedNew lex rowid l (T ++ X) r) :
    OwnedNew lex rowid l T r :=
  ⟨h.1, fun hm => h.2 (by rw [List.map_append]; exact List.mem_append_left _ hm)⟩

/-- `_insert_lexicon`: the lexicon row (giving `b1`), then the dependencies that were waiting for this lexicon
linked, its own dependencies recorded and, for an extension, its extension row -/
theorem insertLexicon_ok {b b' : Db} {l : Lexicon} {lexid extid : Nat} (h : insertLexicon b l = .ok (b', lexid, extid)) :
    lexiconRow b l.id l.version = none ∧ lexid = nextId (b.lexicons.map (·.rowid)) ∧
    ∃ b1 : Db, b1 = { b with lexicons := b.lexicons ++ [{
        rowid := lexid, id := l.id, label := l.label, language := l.language, email := l.email, license := l.license,
        version := l.version, url := l.url, citation := l.citation, logo := l.logo, md := l.md }] } ∧
      (match l.ext with | none => extid = lexid | some x => lexiconRow b1 x.id x.version = some extid) ∧
      b' = { b1 with
        deps := b.deps.map (fun d => if d.pid == l.id && d.pver == l.version then { d with provider := some lexid } else d) ++
          l.requires.map (fun d =>
            { dependent := lexid, pid := d.id, pver := d.version, purl := d.url, provider := lexiconRow b1 d.id d.version }),
        exts := b.exts ++ (match l.ext with
          | none => []
          | some x => [{ ext := lexid, bid := x.id, bver := x.version, burl := x.url, base := lexiconRow b1 x.id x.version }]) } := by
  unfold insertLexicon at h
  obtain ⟨hnew, h⟩ := guard_ok h
  refine ⟨by simpa using hnew, ?_⟩
  cases hx : l.ext with
  | none =>
    simp only [hx, pure, Except.pure, Except.ok.injEq, Prod.mk.injEq] at h
    obtain ⟨rfl, rfl, rfl⟩ := h
    exact ⟨rfl, _, rfl, rfl, by simp only [List.append_nil]; rfl⟩
  | some x =>
    simp only [hx] at h
    obtain ⟨_, hb, h⟩ := bind_ok h
    simp only [pure, Except.pure, Except.ok.injEq, Prod.mk.injEq] at h
    obtain ⟨rfl, rfl, rfl⟩ := h
    exact ⟨rfl, _, rfl, need_ok.mp hb, rfl⟩

theorem insertLexicon_writes {b b' : Db} {l : Lexicon} {lexid extid : Nat} (h : insertLexicon b l = .ok (b', lexid, extid)) :
    ∃ L D X, b' = { b with lexicons := L, deps := D, exts := X } := by
  obtain ⟨-, -, _, rfl, -, rfl⟩ := insertLexicon_ok h
  exact ⟨_, _, _, rfl⟩

theorem insertSynsets_split {b b' : Db} {l : Lexicon} {c : Ctx} (h : insertSynsets b l c = .ok b') :
    ∃ presup I Y P, lookupId b.ilistatuses "presupposed" = some presup ∧
      (localSynsets l).foldlM (presupStep presup) b = .ok { b with ilis := I } ∧
      (localSynsets l).foldlM (synsetStep c) { b with ilis := I } = .ok { b with ilis := I, synsets := Y } ∧
      (localSynsets l).foldlM (piliStep c) { b with ilis := I, synsets := Y } = .ok b' ∧
      b' = { b with ilis := I, synsets := Y, pilis := P } := by
  unfold insertSynsets at h
  obtain ⟨presup, hp, h⟩ := bind_ok h
  obtain ⟨b1, h1, h⟩ := bind_ok h
  obtain ⟨b2, h2, h3⟩ := bind_ok h
  obtain ⟨I, rfl⟩ := foldlM_writes (fun b I => { b with ilis := I })
    (fun b ss b' h => by
      rcases presupStep_ok h with ⟨rfl, -⟩ | ⟨-, rfl⟩
      · exact ⟨_, rfl⟩
      · exact ⟨_, rfl⟩) h1
  obtain ⟨Y, rfl⟩ := foldlM_writes (fun b Y => { b with synsets := Y })
    (fun b ss b' h => by obtain ⟨_, _, rfl⟩ := synsetStep_ok h; exact ⟨_, rfl⟩) h2
  obtain ⟨P, rfl⟩ := foldlM_writes (fun b P => { b with pilis := P })
    (fun b ss b' h => by
      rcases piliStep_ok h with ⟨-, rfl⟩ | ⟨-, _, -, -, rfl⟩
      · exact ⟨_, rfl⟩
      · exact ⟨_, rfl⟩) h3
  exact ⟨presup, I, Y, P, need_ok.mp hp, h1, h2, h3, rfl⟩

theorem insertEntries_writes {b b' : Db} {l : Lexicon} {c : Ctx} (h : insertEntries b l c = .ok b') :
    ∃ E, b' = { b with entries := E } :=
  foldlM_writes (fun b E => { b with entries := E })
    (fun b e b' h => by obtain ⟨_, -, -, rfl⟩ := entryStep_ok h; exact ⟨_, rfl⟩) h

theorem formStep_writes {norm : String → String} {c : Ctx} {e : Entry} {b b' : Db} {fi : Form × Nat}
    (h : formStep norm c e b fi = .ok b') : ∃ F, b' = { b with forms := F } := by
  rcases formStep_ok h with ⟨-, rfl⟩ | ⟨-, _, -, h⟩
  · exact ⟨_, rfl⟩
  · exact ⟨_, addForm_ok h⟩

theorem insertForms_writes {b b' : Db} {norm : String → String} {l : Lexicon} {c : Ctx}
    (h : insertForms b norm l c = .ok b') : ∃ F, b' = { b with forms := F } :=
  foldlM_writes (fun b F => { b with forms := F })
    (fun b e b' h => by
      obtain ⟨b1, h2, h1⟩ := entryFormsStep_ok h
      obtain ⟨F, rfl⟩ := foldlM_writes (fun b F => { b with forms := F }) (fun _ _ _ => formStep_writes) h2
      rcases h1 with ⟨-, rfl⟩ | ⟨-, _, _, -, -, h1⟩
      · exact ⟨F, rfl⟩
      · rw [addForm_ok h1]; exact ⟨F, rfl⟩) h

/-! The document's lists in the order the loops of `addLexicon` go through them: a loop inside a loop is read as one
loop over these (`foldlM_pairs`), so that every loop lemma is about a plain `foldlM`. -/

/-- the document's local senses with their entry and position, in the order `_insert_senses` writes them -/
def sensePairs (l : Lexicon) : List (Entry × (Sense × Nat)) :=
  l.entries.flatMap (fun e => (localSenses e).zipIdx.map (fun si => (e, si)))

def countPairs (l : Lexicon) : List (Sense × Count) :=
  l.entries.flatMap (fun e => e.senses.flatMap (fun s => s.counts.map (fun x => (s, x))))

/-- the document's synset relations, as (source synset, relation), in the order `_insert_synset_relations` writes them -/
def synRelPairs (l : Lexicon) : List (Synset × Relation) :=
  l.synsets.flatMap (fun ss => ss.relations.map (fun r => (ss, r)))

def defPairs (l : Lexicon) : List (Synset × Definition) := l.synsets.flatMap (fun ss => ss.definitions.map (fun d => (ss, d)))
def synExPairs (l : Lexicon) : List (Synset × Example) := l.synsets.flatMap (fun ss => ss.examples.map (fun x => (ss, x)))
def senseExPairs (l : Lexicon) : List (Sense × Example) :=
  l.entries.flatMap (fun e => e.senses.flatMap (fun s => s.examples.map (fun x => (s, x))))

theorem insertPronsTags_split {b b' : Db} {l : Lexicon} {c : Ctx} (h : insertPronsTags b l c = .ok b') :
    ∃ P T,
      (l.entries.flatMap fun e => (formLikes e).flatMap fun fl => fl.2.2.1.map fun p => ((e, fl), p)).foldlM
        (fun db q => pronStep c q.1.1 q.1.2.1 q.1.2.2.1 db q.2) b = .ok { b with prons := P } ∧
      (l.entries.flatMap fun e => (formLikes e).flatMap fun fl => fl.2.2.2.map fun t => ((e, fl), t)).foldlM
        (fun db q => tagStep c q.1.1 q.1.2.1 q.1.2.2.1 db q.2) { b with prons := P } = .ok b' ∧
      b' = { b with prons := P, tags := T } := by
  unfold insertPronsTags at h
  obtain ⟨b1, h1, h2⟩ := bind_ok h
  -- three loops deep: first over (entry, form-like element), then over those with each pronunciation, resp. tag
  rw [foldlM_pairs, foldlM_pairs (fun p : Entry × (Option String × Option Nat × List Pron × List Tag) => p.2.2.2.1)
    (fun p => pronStep c p.1 p.2.1 p.2.2.1), List.flatMap_assoc] at h1
  rw [foldlM_pairs, foldlM_pairs (fun p : Entry × (Option String × Option Nat × List Pron × List Tag) => p.2.2.2.2)
    (fun p => tagStep c p.1 p.2.1 p.2.2.1), List.flatMap_assoc] at h2
  simp only [List.flatMap_map] at h1 h2
  obtain ⟨P, rfl⟩ := foldlM_writes (fun b P => { b with prons := P })
    (fun _ _ _ h => by obtain ⟨_, -, rfl⟩ := pronStep_ok h; exact ⟨_, rfl⟩) h1
  obtain ⟨T, rfl⟩ := foldlM_writes (fun b T => { b with tags := T })
    (fun _ _ _ h => by obtain ⟨_, -, rfl⟩ := tagStep_ok h; exact ⟨_, rfl⟩) h2
  exact ⟨P, T, h1, h2, rfl⟩

theorem insertSenses_split {b b' : Db} {l : Lexicon} {c : Ctx} {dr : Nat} (h : insertSenses b l c dr = .ok b') :
    ∃ S A C,
      (sensePairs l).foldlM (fun db p => senseStep l c dr p.1 db p.2) b = .ok { b with senses := S } ∧
      (l.entries.flatMap localSenses).foldlM (adjStep c) { b with senses := S } = .ok { b with senses := S, adjs := A } ∧
      (countPairs l).foldlM (fun db p => countStep c p.1 db p.2) { b with senses := S, adjs := A } = .ok b' ∧
      b' = { b with senses := S, adjs := A, counts := C } := by
  unfold insertSenses at h
  obtain ⟨b1, h1, h⟩ := bind_ok h
  obtain ⟨b2, h2, h3⟩ := bind_ok h
  rw [foldlM_pairs] at h1
  rw [foldlM_flatMap localSenses] at h2
  rw [foldlM_flatMap (fun e : Entry => e.senses), foldlM_pairs, List.flatMap_assoc] at h3
  obtain ⟨S, rfl⟩ := foldlM_writes (fun b S => { b with senses := S })
    (fun _ _ _ h => by obtain ⟨_, _, -, -, rfl⟩ := senseStep_ok h; exact ⟨_, rfl⟩) h1
  obtain ⟨A, rfl⟩ := foldlM_writes (fun b A => { b with adjs := A })
    (fun _ _ _ h => by
      rcases adjStep_ok h with rfl | ⟨_, _, -, -, -, rfl⟩
      · exact ⟨_, rfl⟩
      · exact ⟨_, rfl⟩) h2
  obtain ⟨C, rfl⟩ := foldlM_writes (fun b C => { b with counts := C })
    (fun _ _ _ h => by obtain ⟨_, -, rfl⟩ := countStep_ok h; exact ⟨_, rfl⟩) h3
  exact ⟨S, A, C, h1, h2, h3, rfl⟩

theorem insertSbs_split {b b' : Db} {sbs : List Sb} {c : Ctx} (h : insertSbs b sbs c = .ok b') :
    ∃ B X, sbs.foldlM (sbStep c) b = .ok { b with sbs := B } ∧
      (sbs.flatMap fun sb => sb.senses.map fun sid => (sb, sid)).foldlM (fun db p => sbSenseStep c p.1 db p.2) { b with sbs := B }
        = .ok b' ∧
      b' = { b with sbs := B, sbsenses := X } := by
  unfold insertSbs at h
  obtain ⟨b1, h1, h2⟩ := bind_ok h
  rw [foldlM_pairs] at h2
  obtain ⟨B, rfl⟩ := foldlM_writes (fun b B => { b with sbs := B })
    (fun _ _ _ h => by obtain ⟨-, rfl⟩ := sbStep_ok h; exact ⟨_, rfl⟩) h1
  obtain ⟨X, rfl⟩ := foldlM_writes (fun b X => { b with sbsenses := X })
    (fun _ _ _ h => by obtain ⟨_, _, -, -, rfl⟩ := sbSenseStep_ok h; exact ⟨_, rfl⟩) h2
  exact ⟨B, X, h1, h2, rfl⟩

/-- the document's sense relations whose target is a sense, resp. a synset and no sense, in insertion order (the two
loops of `_insert_sense_relations`) -/
def senseRelPairs (l : Lexicon) : List (String × Relation) :=
  (allSenseRels l).filter (fun p => (l.entries.flatMap (fun e => e.senses.map (·.id))).contains p.2.target)
def senseSynRelPairs (l : Lexicon) : List (String × Relation) :=
  (allSenseRels l).filter (fun p => !(l.entries.flatMap (fun e => e.senses.map (·.id))).contains p.2.target &&
    (l.synsets.map (·.id)).contains p.2.target)

theorem insertRelations_split {b b' : Db} {l : Lexicon} {c : Ctx} (h : insertRelations b l c = .ok b') :
    ∃ R1 R2 R3,
      (synRelPairs l).foldlM (fun db p => synRelStep c p.1 db p.2) b = .ok { b with synrels := R1 } ∧
      (senseRelPairs l).foldlM (senseRelStep c) { b with synrels := R1 } = .ok { b with synrels := R1, senserels := R2 } ∧
      (senseSynRelPairs l).foldlM (senseSynRelStep c) { b with synrels := R1, senserels := R2 } = .ok b' ∧
      b' = { b with synrels := R1, senserels := R2, sensesynrels := R3 } := by
  unfold insertRelations at h
  obtain ⟨b1, h1, h⟩ := bind_ok h
  rw [foldlM_pairs] at h1
  dsimp only at h
  split at h
  · cases h
  · obtain ⟨b2, h2, h3⟩ := bind_ok h
    obtain ⟨R1, rfl⟩ := foldlM_writes (fun b R => { b with synrels := R })
      (fun _ _ _ h => by obtain ⟨_, _, _, -, -, -, rfl⟩ := synRelStep_ok h; exact ⟨_, rfl⟩) h1
    obtain ⟨R2, rfl⟩ := foldlM_writes (fun b R => { b with senserels := R })
      (fun _ _ _ h => by obtain ⟨_, _, _, -, -, -, rfl⟩ := senseRelStep_ok h; exact ⟨_, rfl⟩) h2
    obtain ⟨R3, rfl⟩ := foldlM_writes (fun b R => { b with sensesynrels := R })
      (fun _ _ _ h => by obtain ⟨_, _, _, -, -, -, rfl⟩ := senseSynRelStep_ok h; exact ⟨_, rfl⟩) h3
    exact ⟨R1, R2, R3, h1, h2, h3, rfl⟩

theorem insertDefsExamples_split {b b' : Db} {l : Lexicon} {c : Ctx} (h : insertDefsExamples b l c = .ok b') :
    ∃ D X Y,
      (defPairs l).foldlM (fun db p => defStep c p.1 db p.2) b = .ok { b with defs := D } ∧
      (senseExPairs l).foldlM (fun db p => senseExampleStep c p.1 db p.2) { b with defs := D }
        = .ok { b with defs := D, sensexs := X } ∧
      (synExPairs l).foldlM (fun db p => synsetExampleStep c p.1 db p.2) { b with defs := D, sensexs := X } = .ok b' ∧
      b' = { b with defs := D, sensexs := X, synexs := Y } := by
  unfold insertDefsExamples at h
  obtain ⟨b1, h1, h⟩ := bind_ok h
  obtain ⟨b2, h2, h3⟩ := bind_ok h
  rw [foldlM_pairs] at h1 h3
  rw [foldlM_flatMap (fun e : Entry => e.senses), foldlM_pairs, List.flatMap_assoc] at h2
  obtain ⟨D, rfl⟩ := foldlM_writes (fun b D => { b with defs := D })
    (fun _ _ _ h => by obtain ⟨_, -, rfl⟩ := defStep_ok h; exact ⟨_, rfl⟩) h1
  obtain ⟨X, rfl⟩ := foldlM_writes (fun b X => { b with sensexs := X })
    (fun _ _ _ h => by obtain ⟨_, -, rfl⟩ := senseExampleStep_ok h; exact ⟨_, rfl⟩) h2
  obtain ⟨Y, rfl⟩ := foldlM_writes (fun b Y => { b with synexs := Y })
    (fun _ _ _ h => by obtain ⟨_, -, rfl⟩ := synsetExampleStep_ok h; exact ⟨_, rfl⟩) h3
  exact ⟨D, X, Y, h1, h2, h3, rfl⟩

/-- `f` leaves the `proposed_ilis` and `synsets` tables alone, as every pass after `_insert_synsets` does.  The proofs
use the `*_writes` / `*_split` of the pass, which says the same of every table the pass does not write. -/
def KeepsPF (f : Db → R Db) : Prop := ∀ b b', f b = .ok b' → b'.pilis = b.pilis ∧ b'.synsets = b.synsets

theorem keepsPF_insertEntries (l : Lexicon) (c : Ctx) : KeepsPF (fun b => insertEntries b l c) :=
  fun _ _ h => by obtain ⟨_, rfl⟩ := insertEntries_writes h; exact ⟨rfl, rfl⟩

theorem keepsPF_insertForms (norm : String → String) (l : Lexicon) (c : Ctx) : KeepsPF (fun b => insertForms b norm l c) :=
  fun _ _ h => by obtain ⟨_, rfl⟩ := insertForms_writes h; exact ⟨rfl, rfl⟩

theorem keepsPF_insertPronsTags (l : Lexicon) (c : Ctx) : KeepsPF (fun b => insertPronsTags b l c) :=
  fun _ _ h => by obtain ⟨_, _, -, -, rfl⟩ := insertPronsTags_split h; exact ⟨rfl, rfl⟩

theorem keepsPF_insertSenses (l : Lexicon) (c : Ctx) (dr : Nat) : KeepsPF (fun b => insertSenses b l c dr) :=
  fun _ _ h => by obtain ⟨_, _, _, -, -, -, rfl⟩ := insertSenses_split h; exact ⟨rfl, rfl⟩

theorem keepsPF_insertSbs (sbs : List Sb) (c : Ctx) : KeepsPF (fun b => insertSbs b sbs c) :=
  fun _ _ h => by obtain ⟨_, _, -, -, rfl⟩ := insertSbs_split h; exact ⟨rfl, rfl⟩

theorem keepsPF_insertDefsExamples (l : Lexicon) (c : Ctx) : KeepsPF (fun b => insertDefsExamples b l c) :=
  fun _ _ h => by obtain ⟨_, _, _, -, -, -, rfl⟩ := insertDefsExamples_split h; exact ⟨rfl, rfl⟩

theorem keepsPF_insertRelations (l : Lexicon) (c : Ctx) : KeepsPF (fun b => insertRelations b l c) :=
  fun _ _ h => by obtain ⟨_, _, _, -, -, -, rfl⟩ := insertRelations_split h; exact ⟨rfl, rfl⟩

end WnVerif.Db
