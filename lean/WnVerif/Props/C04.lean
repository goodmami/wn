/-
C04 — queries stay inside the selected lexicons and ignore unrelated ones.
Inside: every query result is owned by the selection, on every database; tags, pronunciations and forms carry no
owner filter (findings F12, F13).  Frame: a store that has grown by the rows of a lexicon outside the selection `S`
(`Db.Grows`) answers the queries restricted to `S` as before (`Grows.*_eq`), and one `addLexicon` is such a growth.
-/
import WnVerif.Model.Api
import WnVerif.Lemmas.GrowsQuery
import WnVerif.Props.C12
namespace WnVerif.Props.C04
open WnVerif.Db WnVerif.Doc

theorem sorted_filterMap_frame {α β} (key : α → Nat) (g' g : α → Option β) (A B : List α)
    (hB : ∀ b ∈ B, g' b = none) (hA : ∀ a ∈ A, g' a = g a) :
    (sortBy key (A ++ B)).filterMap g' = (sortBy key A).filterMap g :=
  sortBy_append_filterMap hB hA

/-- words(), word(id), words(form): every returned word is owned by a selected lexicon -/
theorem C04_inside_entries (db : Db) (id : Option String) (forms : List String) (pos : Option String)
    (lexids : List Nat) (hne : lexids ≠ []) (n a : Bool) (w : WordData)
    (h : w ∈ findEntries db id forms pos lexids n a) : w.lex ∈ lexids := by
  obtain ⟨e, -, hl, -, -, -, hwl, -⟩ := mem_findEntries h
  rw [inLexOrAll_of_ne_nil hne] at hl
  exact hwl ▸ mem_inLex.mp hl

/-- senses(): every returned sense is owned by a selected lexicon -/
theorem C04_inside_senses (db : Db) (id : Option String) (forms : List String) (pos : Option String)
    (lexids : List Nat) (hne : lexids ≠ []) (n a : Bool) (s : SenseData)
    (h : s ∈ findSenses db id forms pos lexids n a) : s.lex ∈ lexids := by
  unfold findSenses at h
  obtain ⟨r, hr, hs⟩ := List.mem_filterMap.mp h
  rw [inLexOrAll_of_ne_nil hne] at hr
  rw [senseData_lex hs]
  exact (lex_mem_of_mem_filter hr :)

/-- synsets() without a form: every returned synset is owned by a selected lexicon -/
theorem C04_inside_synsets (db : Db) (id pos ili : Option String) (lexids : List Nat) (hne : lexids ≠ [])
    (n a : Bool) (y : SynsetData) (h : y ∈ findSynsets db id [] pos ili lexids n a) : y.lex ∈ lexids := by
  unfold findSynsets at h
  simp only [List.isEmpty_nil, if_true] at h
  rw [inLexOrAll_of_ne_nil hne] at h
  obtain ⟨r, hr, rfl⟩ := List.mem_map.mp h
  exact (lex_mem_of_mem_filter hr :)

theorem lex_mem_of_mem_senseListing {db : Db} {key : RSense → Nat} {p : RSense → Bool} {S : List Nat} {s : SenseData}
    (h : s ∈ (sortBy key (db.senses.filter fun r => p r && inLex S r.lex)).filterMap (senseData db)) : s.lex ∈ S := by
  obtain ⟨r, hr, hs⟩ := List.mem_filterMap.mp h
  rw [senseData_lex hs]
  exact (lex_mem_of_mem_filter ((mem_sortBy _ _ _).mp hr) :)

/-- senses of a word / members of a synset come from the lexicons in scope only -/
theorem C04_inside_entry_senses (db : Db) (entry : Nat) (lexids : List Nat) (s : SenseData)
    (h : s ∈ entrySenses db entry lexids) : s.lex ∈ lexids :=
  lex_mem_of_mem_senseListing h

theorem C04_inside_synset_members (db : Db) (synset : Nat) (lexids : List Nat) (s : SenseData)
    (h : s ∈ synsetMembers db synset lexids) : s.lex ∈ lexids :=
  lex_mem_of_mem_senseListing h

/-- examples and counts of a sense: only those contributed by a lexicon in scope -/
theorem C04_examples_scoped (db : Db) (sense : Nat) (lexids : List Nat) (x : RExample)
    (h : x ∈ senseExamples db sense lexids) : x.lex ∈ lexids :=
  (lex_mem_of_mem_filter h :)

theorem C04_counts_scoped (db : Db) (sense : Nat) (lexids : List Nat) (x : RCount)
    (h : x ∈ senseCounts db sense lexids) : x.lex ∈ lexids :=
  (lex_mem_of_mem_filter h :)

/-- relation targets: both the relation and its target are owned by lexicons in scope -/
theorem C04_inside_synset_relations (db : Db) (sources : List Nat) (types : List String) (lexids : List Nat)
    (r : RelData SynsetData) (h : r ∈ synsetRelations db sources types lexids) :
    r.target.lex ∈ lexids ∧ ∃ row ∈ db.synrels, row.lex ∈ lexids ∧ row.source = r.source ∧ lexSpec db row.lex = r.lexicon := by
  obtain ⟨row, hrow, tgt, -, hl, -, -, htl, e⟩ := mem_synsetRelations h
  rw [e]
  exact ⟨htl, row, hrow, hl, rfl, rfl⟩

/-- in a restricted Wordnet every entity uses exactly the Wordnet's lexicons as its scope;
in default mode its own lexicon, its bases and its extensions -/
theorem C04_scope (db : Db) (w : Wordnet) (lex : Nat) :
    entityLexids db w lex =
      if w.defaultMode then [lex] ++ basesOf db (db.lexicons.length + 1) lex ++ extensionsOf db (db.lexicons.length + 1) lex
      else w.lexids := by
  unfold entityLexids; split <;> rfl

/-- expanded relation targets are resolved back into the scope: a stored synset of the scope
or the placeholder owned by the source's lexicon -/
theorem C04_expanded_targets_in_scope (db : Db) (w : Wordnet) (x : SynsetData) (types : List String)
    (e : RelData SynsetData × String × SynsetData) (h : e ∈ expandedSynsetRelations db w x types) :
    e.2.2.lex ∈ entityLexids db w x.lex ∨ (e.2.2.id = "*INFERRED*" ∧ e.2.2.lex = x.lex) := by
  obtain ⟨ili, hili, hexp⟩ := C12.ili_expids_of_mem_expanded db w x types e h
  obtain ⟨-, -, t, -, -, -, ht⟩ := (C12.C12_expanded_exact db w x types ili hili hexp e).mp h
  rcases ht with ht | ⟨-, ht⟩
  · exact Or.inl (C12.C12_target_ili db t _ _ ht).2
  · exact Or.inr (ht ▸ ⟨rfl, rfl⟩)

/-- F12: `get_form_tags` takes no selection, so a tag row that any lexicon appends for a form (an extension, for
a lemma of its base) is reported with the others -/
theorem C04_frame_counterexample_tags (db : Db) (form : Nat) (t : RTag) (ht : t.form = form) :
    formTags { db with tags := db.tags ++ [t] } form = formTags db form ++ [t] := by
  simp [formTags, List.filter_append, ht]

/-- F13: the forms reported for a word are all the form rows of its entry, whoever owns them: a form row written
by an extension outside the selection is reported -/
theorem C04_frame_counterexample_forms (db : Db) (lexids : List Nat) (w : WordData)
    (h : w ∈ findEntries db none [] none lexids false true) (f : RForm) (hf : f ∈ db.forms) (he : f.entry = w.rowid) :
    (⟨f.form, f.id, f.script, f.rowid⟩ : FormData) ∈ w.forms := by
  obtain ⟨e, -, -, hr, -, -, -, hfs, -⟩ := mem_findEntries h
  rw [hfs]
  exact List.mem_map.mpr ⟨f, (mem_sortBy _ _ _).mpr (List.mem_filter.mpr ⟨hf, by rw [he, hr]; exact beq_self_eq_true _⟩), rfl⟩

/-- an owner-filtered table, by contrast, does not show the rows of a lexicon outside the scope -/
theorem C04_frame_examples (db : Db) (sense : Nat) (lexids : List Nat) (extra : List RExample)
    (hout : ∀ x ∈ extra, x.lex ∉ lexids) :
    senseExamples { db with sensexs := db.sensexs ++ extra } sense lexids = senseExamples db sense lexids :=
  filter_append_right_nil (fun x hx => by rw [inLex_outside (hout x hx), Bool.and_false]) _

/-- what the frame of `get_synset_relations` asks of the store (a target is reported with its ILI) -/
structure RelFK (db : Db) : Prop where
  synrelType : ∀ o ∈ db.synrels, o.type ∈ db.reltypes.map (·.1)
  synrelTarget : ∀ o ∈ db.synrels, o.target ∈ db.synsets.map (·.rowid)
  synrelLex : ∀ o ∈ db.synrels, o.lex ∈ db.lexicons.map (·.rowid)
  synsetIli : ∀ o ∈ db.synsets, ∀ k, o.ili = some k → k ∈ db.ilis.map (·.rowid)

/-- what the frame of `get_sense_relations` asks of the store (a target is reported with the ids of its entry and
synset) -/
structure SenseRelFK (db : Db) : Prop where
  relType : ∀ o ∈ db.senserels, o.type ∈ db.reltypes.map (·.1)
  relTarget : ∀ o ∈ db.senserels, o.target ∈ db.senses.map (·.rowid)
  relLex : ∀ o ∈ db.senserels, o.lex ∈ db.lexicons.map (·.rowid)
  senseEntry : ∀ o ∈ db.senses, o.entry ∈ db.entries.map (·.rowid)
  senseSynset : ∀ o ∈ db.senses, o.synset ∈ db.synsets.map (·.rowid)

theorem addLexicon_ilis_fresh {norm : String → String} {dr : Nat} {db db' : Db} {l : Lexicon}
    (t : AddTrace norm dr db db' l) :
    (∃ extra, db'.ilis = db.ilis ++ extra ∧ ∀ r ∈ extra, r.rowid ∉ db.ilis.map (·.rowid)) ∧
    db'.ilistatuses = db.ilistatuses :=
  ⟨t.grows.ilis, t.grows.ilistatuses⟩

theorem addLexicon_grows {norm : String → String} {dr : Nat} {db db' : Db} {l : Lexicon}
    (h : addLexicon norm dr db l = .ok db') : ∃ b, Grows db db' (nextId (db.lexicons.map (·.rowid))) b :=
  have ⟨t⟩ := addLexicon_split norm dr db db' l h
  ⟨t.extid, t.lexid_eq ▸ t.grows⟩

theorem addLexicon_growsPlain {norm : String → String} {dr : Nat} {db db' : Db} {l : Lexicon}
    (h : addLexicon norm dr db l = .ok db') (hplain : l.ext = none) :
    Grows db db' (nextId (db.lexicons.map (·.rowid))) (nextId (db.lexicons.map (·.rowid))) := by
  obtain ⟨t⟩ := addLexicon_split norm dr db db' l h
  have g := t.grows
  rwa [t.extid_plain hplain, t.lexid_eq] at g

/-- `synsets()` without a form, with any id / part-of-speech / ILI filter, restricted to a non-empty selection `S`:
unchanged by adding *any* lexicon (plain or extension, related or not) that is not in `S` -/
theorem C04_frame_synsets_end_to_end (norm : String → String) (dr : Nat) (db db' : Db) (l : Doc.Lexicon)
    (h : addLexicon norm dr db l = .ok db') (S : List Nat) (hS : S ≠ [])
    (hout : nextId (db.lexicons.map (·.rowid)) ∉ S)
    (hlink : ∀ o ∈ db.synsets, ∀ k, o.ili = some k → k ∈ db.ilis.map (·.rowid))
    (id pos ili : Option String) (n a : Bool) :
    findSynsets db' id [] pos ili S n a = findSynsets db id [] pos ili S n a :=
  (addLexicon_grows h).elim fun _ g => g.findSynsets_eq hS hout hlink id pos ili n a

/-- `senses()` without a form, with any id / part-of-speech filter, restricted to a non-empty `S`: unchanged by adding
any lexicon outside `S` -/
theorem C04_frame_senses_end_to_end (norm : String → String) (dr : Nat) (db db' : Db) (l : Doc.Lexicon)
    (h : addLexicon norm dr db l = .ok db') (S : List Nat) (hS : S ≠ [])
    (hout : nextId (db.lexicons.map (·.rowid)) ∉ S)
    (hfkE : ∀ o ∈ db.senses, o.entry ∈ db.entries.map (·.rowid))
    (hfkY : ∀ o ∈ db.senses, o.synset ∈ db.synsets.map (·.rowid))
    (id pos : Option String) (n a : Bool) :
    findSenses db' id [] pos S n a = findSenses db id [] pos S n a :=
  (addLexicon_grows h).elim fun _ g => g.findSenses_eq hS hout hfkE hfkY (fun _ _ => rfl) id pos

/-- `Word.senses()`: adding any lexicon outside `S` leaves the senses listed for an entry within `S` unchanged -/
theorem C04_frame_entry_senses_end_to_end (norm : String → String) (dr : Nat) (db db' : Db) (l : Doc.Lexicon)
    (h : addLexicon norm dr db l = .ok db') (S : List Nat)
    (hout : nextId (db.lexicons.map (·.rowid)) ∉ S)
    (hfkE : ∀ o ∈ db.senses, o.entry ∈ db.entries.map (·.rowid))
    (hfkY : ∀ o ∈ db.senses, o.synset ∈ db.synsets.map (·.rowid)) (entry : Nat) :
    entrySenses db' entry S = entrySenses db entry S :=
  (addLexicon_grows h).elim fun _ g => g.senseListing_eq hout hfkE hfkY _ _

/-- `Synset.senses()` / `Synset.words()`: the members of a synset within `S` are unchanged by adding a lexicon
outside `S` -/
theorem C04_frame_synset_members_end_to_end (norm : String → String) (dr : Nat) (db db' : Db) (l : Doc.Lexicon)
    (h : addLexicon norm dr db l = .ok db') (S : List Nat)
    (hout : nextId (db.lexicons.map (·.rowid)) ∉ S)
    (hfkE : ∀ o ∈ db.senses, o.entry ∈ db.entries.map (·.rowid))
    (hfkY : ∀ o ∈ db.senses, o.synset ∈ db.synsets.map (·.rowid)) (synset : Nat) :
    synsetMembers db' synset S = synsetMembers db synset S :=
  (addLexicon_grows h).elim fun _ g => g.senseListing_eq hout hfkE hfkY _ _

/-- `get_synset_relations` restricted to `S`, for any sources and relation types, is unchanged by adding a lexicon
outside `S` -/
theorem C04_frame_synset_relations_end_to_end (norm : String → String) (dr : Nat) (db db' : Db) (l : Doc.Lexicon)
    (h : addLexicon norm dr db l = .ok db') (S : List Nat)
    (hout : nextId (db.lexicons.map (·.rowid)) ∉ S) (fk : RelFK db)
    (sources : List Nat) (types : List String) :
    synsetRelations db' sources types S = synsetRelations db sources types S :=
  (addLexicon_grows h).elim fun _ g => g.synsetRelations_eq hout fk.synrelType fk.synrelTarget fk.synrelLex fk.synsetIli sources types

/-- `get_sense_relations` restricted to `S`, for any source and relation types, is unchanged by adding a lexicon
outside `S` -/
theorem C04_frame_sense_relations_end_to_end (norm : String → String) (dr : Nat) (db db' : Db) (l : Doc.Lexicon)
    (h : addLexicon norm dr db l = .ok db') (S : List Nat)
    (hout : nextId (db.lexicons.map (·.rowid)) ∉ S) (fk : SenseRelFK db)
    (source : Nat) (types : List String) :
    senseRelations db' source types S = senseRelations db source types S :=
  (addLexicon_grows h).elim fun _ g => g.senseRelations_eq hout fk.relType fk.relTarget fk.relLex fk.senseEntry fk.senseSynset source types

/-- `get_definitions` within `S` is unchanged by adding a lexicon outside `S` -/
theorem C04_frame_definitions_end_to_end (norm : String → String) (dr : Nat) (db db' : Db) (l : Doc.Lexicon)
    (h : addLexicon norm dr db l = .ok db') (S : List Nat) (hout : nextId (db.lexicons.map (·.rowid)) ∉ S)
    (hfk : ∀ d ∈ db.defs, ∀ s, d.sense = some s → s ∈ db.senses.map (·.rowid)) (x : Nat) :
    definitions db' x S = definitions db x S :=
  (addLexicon_grows h).elim fun _ g => g.definitions_eq hout hfk x

/-- examples and counts within `S` are unchanged by adding a lexicon outside `S`, on any store -/
theorem C04_frame_examples_counts_end_to_end (norm : String → String) (dr : Nat) (db db' : Db) (l : Doc.Lexicon)
    (h : addLexicon norm dr db l = .ok db') (S : List Nat) (hout : nextId (db.lexicons.map (·.rowid)) ∉ S) (x : Nat) :
    synsetExamples db' x S = synsetExamples db x S ∧ senseExamples db' x S = senseExamples db x S ∧
    senseCounts db' x S = senseCounts db x S :=
  (addLexicon_grows h).elim fun _ g =>
    ⟨g.synexs.filter (fun _ h => h) hout _, g.sensexs.filter (fun _ h => h) hout _, g.counts.filter (fun _ h => h) hout _⟩

/-- `Sense.frames()` within `S` is unchanged by adding a lexicon outside `S` -/
theorem C04_frame_sense_frames_end_to_end (norm : String → String) (dr : Nat) (db db' : Db) (l : Doc.Lexicon)
    (h : addLexicon norm dr db l = .ok db') (S : List Nat)
    (hout : nextId (db.lexicons.map (·.rowid)) ∉ S)
    (hfk : ∀ o ∈ db.sbs, o.lex ∈ db.lexicons.map (·.rowid)) (sense : Nat) :
    senseFrames db' sense S = senseFrames db sense S :=
  (addLexicon_grows h).elim fun _ g => g.senseFrames_eq hout hfk sense

/-- `find_syntactic_behaviours` (used by export and `Sense.frames`) of a non-empty `S` is unchanged by adding a lexicon
outside `S` -/
theorem C04_frame_sbs_end_to_end (norm : String → String) (dr : Nat) (db db' : Db) (l : Doc.Lexicon)
    (h : addLexicon norm dr db l = .ok db') (S : List Nat) (hS : S ≠ [])
    (hout : nextId (db.lexicons.map (·.rowid)) ∉ S)
    (hfk : ∀ o ∈ db.sbs, o.lex ∈ db.lexicons.map (·.rowid))
    (hfkS : ∀ o ∈ db.sbsenses, o.sense ∈ db.senses.map (·.rowid)) :
    findSbs db' S = findSbs db S :=
  (addLexicon_grows h).elim fun _ g => g.findSbs_eq hS hout hfk hfkS

/-- `ilis()` with any id / status filter: the ILIs seen through a non-empty `S`, existing ones with their status and
definition and proposed ones, are unchanged by adding a lexicon outside `S`.  `hnY` is not used. -/
theorem C04_frame_ilis_end_to_end (norm : String → String) (dr : Nat) (db db' : Db) (l : Doc.Lexicon)
    (h : addLexicon norm dr db l = .ok db') (S : List Nat) (hS : S ≠ [])
    (hout : nextId (db.lexicons.map (·.rowid)) ∉ S)
    (hlink : ∀ o ∈ db.synsets, ∀ k, o.ili = some k → k ∈ db.ilis.map (·.rowid))
    (hfkY : ∀ o ∈ db.synsets, o.lex ∈ db.lexicons.map (·.rowid))
    (hnY : (db.synsets.map (·.rowid)).Nodup)
    (id status : Option String) :
    findIlis db' id status S = findIlis db id status S :=
  (addLexicon_grows h).elim fun _ g => g.findIlis_eq hS hout hlink hfkY id status

/-- `words()` with any id, any list of queried forms (with or without normalised matching and `search_all_forms`) and
any part of speech, restricted to a non-empty `S`: unchanged by adding a *plain* lexicon outside `S`.  Plain is
essential: an extension attaches forms to the entries of its base (finding F13).  `hnE` is not used. -/
theorem C04_frame_words_end_to_end (norm : String → String) (dr : Nat) (db db' : Db) (l : Doc.Lexicon)
    (h : addLexicon norm dr db l = .ok db') (hplain : l.ext = none) (S : List Nat) (hS : S ≠ [])
    (hout : nextId (db.lexicons.map (·.rowid)) ∉ S)
    (hfkE : ∀ o ∈ db.entries, o.lex ∈ db.lexicons.map (·.rowid))
    (hnE : (db.entries.map (·.rowid)).Nodup)
    (id : Option String) (forms : List String) (pos : Option String) (n a : Bool) :
    findEntries db' id forms pos S n a = findEntries db id forms pos S n a :=
  (addLexicon_growsPlain h hplain).findEntries_eq hS hout hfkE id forms pos n a

/-- `hnE` is not used -/
theorem addLexicon_formMatch_frame (norm : String → String) (dr : Nat) (db db' : Db) (l : Doc.Lexicon)
    (h : addLexicon norm dr db l = .ok db') (hplain : l.ext = none)
    (hfkE : ∀ o ∈ db.entries, o.lex ∈ db.lexicons.map (·.rowid))
    (hnE : (db.entries.map (·.rowid)).Nodup) (forms : List String) (n a : Bool) :
    ∀ e ∈ db.entries, formMatch db' forms n a e.rowid = formMatch db forms n a e.rowid :=
  fun _ he => (addLexicon_growsPlain h hplain).formMatch_eq hfkE forms n a (List.mem_map_of_mem he)

/-- `senses(form, …)` with any id, form query and part of speech, restricted to a non-empty `S`: unchanged by adding a
plain lexicon outside `S`.  `hnE` is not used. -/
theorem C04_frame_senses_forms_end_to_end (norm : String → String) (dr : Nat) (db db' : Db) (l : Doc.Lexicon)
    (h : addLexicon norm dr db l = .ok db') (hplain : l.ext = none) (S : List Nat) (hS : S ≠ [])
    (hout : nextId (db.lexicons.map (·.rowid)) ∉ S)
    (hfkL : ∀ o ∈ db.entries, o.lex ∈ db.lexicons.map (·.rowid))
    (hnE : (db.entries.map (·.rowid)).Nodup)
    (hfkE : ∀ o ∈ db.senses, o.entry ∈ db.entries.map (·.rowid))
    (hfkY : ∀ o ∈ db.senses, o.synset ∈ db.synsets.map (·.rowid))
    (id : Option String) (forms : List String) (pos : Option String) (n a : Bool) :
    findSenses db' id forms pos S n a = findSenses db id forms pos S n a :=
  have g := addLexicon_growsPlain h hplain
  g.findSenses_eq hS hout hfkE hfkY (fun _ hx => by rw [g.formMatch_eq hfkL forms n a hx]) id pos

/-- `synsets(form, …)` with any id, form query, part of speech and ILI filter, restricted to a non-empty `S`: unchanged
by adding a plain lexicon outside `S`.  Unique synset rowids (`hnY`) are needed: the synset of a new sense has to be
found under its rowid, to be dropped as one outside `S`; `hnE` is not used. -/
theorem C04_frame_synsets_forms_end_to_end (norm : String → String) (dr : Nat) (db db' : Db) (l : Doc.Lexicon)
    (h : addLexicon norm dr db l = .ok db') (hplain : l.ext = none) (S : List Nat) (hS : S ≠ [])
    (hout : nextId (db.lexicons.map (·.rowid)) ∉ S)
    (hfkL : ∀ o ∈ db.entries, o.lex ∈ db.lexicons.map (·.rowid))
    (hnE : (db.entries.map (·.rowid)).Nodup) (hnY : (db.synsets.map (·.rowid)).Nodup)
    (hfkE : ∀ o ∈ db.senses, o.entry ∈ db.entries.map (·.rowid))
    (hfkY : ∀ o ∈ db.senses, o.synset ∈ db.synsets.map (·.rowid))
    (hlink : ∀ o ∈ db.synsets, ∀ k, o.ili = some k → k ∈ db.ilis.map (·.rowid))
    (id : Option String) (forms : List String) (hforms : forms ≠ []) (pos ili : Option String) (n a : Bool) :
    findSynsets db' id forms pos ili S n a = findSynsets db id forms pos ili S n a :=
  have ⟨t⟩ := addLexicon_split norm dr db db' l h
  (addLexicon_growsPlain h hplain).findSynsets_forms_eq hS hout hfkL (t.nodup_synsets hnY) hfkE hfkY hlink id hforms pos
    ili n a

/-- `ilis(status=s)` is the sub-list of `ilis()` with status `s`, on every database and selection, for every status
name other than the empty string and `proposed` (proposed ILIs live in a table of their own and are listed after the
stored ones) -/
theorem C04_ilis_status_is_a_filter (db : Db) (S : List Nat) (st : String) (h1 : st ≠ "") (h2 : st ≠ "proposed") :
    findIlis db none (some st) S = (findIlis db none none S).filter (fun i => i.status == st) := by
  have e1 : ((some st : Option String) == some "proposed") = false := by simp [h2]
  have e2 : (st != "") = true := by simp [h1]
  have e3 : ((none : Option String) == some "proposed") = false := rfl
  unfold findIlis
  simp only [e1, e2, e3, Bool.false_eq_true, if_false, Bool.not_true, Bool.not_false, Bool.and_true, Bool.or_false,
    Bool.and_false, if_true, List.append_nil, List.filter_append, List.filter_filterMap]
  -- the proposed ILIs all have the status `proposed`: none of them passes the filter
  rw [(List.filterMap_eq_nil_iff (l := db.pilis)).mpr fun p _ => ?_, List.append_nil]
  · refine filterMap_congr fun i _ => ?_
    cases lookupName db.ilistatuses i.status with
    | none => rfl
    | some s0 =>
      generalize (S.isEmpty || db.synsets.any (fun ss => ss.ili == some i.rowid && S.contains ss.lex)) = c
      cases c <;> by_cases hs : s0 = st <;> simp [Option.filter, hs]
  · split
    · exact if_neg (by simpa using fun e => h2 e.symm)
    · rfl

end WnVerif.Props.C04
