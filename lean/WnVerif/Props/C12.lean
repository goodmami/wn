/-
C12 — relations borrowed through expand lexicons are mapped by ILI as documented.
-/
import WnVerif.Model.Api
import WnVerif.Lemmas.RelQuery
import WnVerif.Lemmas.Lists
import WnVerif.Gen.Misc
namespace WnVerif.Props.C12
open WnVerif.Db WnVerif.Glob

/-- tie to the source: the id of the placeholder synset and its pseudo rowid -/
theorem C12_gen_inferred (ili : String) (lex : Nat) :
    (inferred ili lex).id = Gen.inferred_synset ∧ (inferred ili lex).rowid = Gen.non_rowid :=
  ⟨rfl, rfl⟩

/-- the expand-lexicon synsets sharing x's ILI (other than x itself) -/
def expandSources (db : Db) (w : Wordnet) (x : SynsetData) (ili : String) : List SynsetData :=
  (findSynsets db none [] none (some ili) w.expids false true).filter (fun s => s.rowid != x.rowid && s.rowid != 0)

/-- a borrowed relation is (r, source id, target) where r is a relation of
an expand-lexicon synset sharing x's ILI, the relation's own target has an ILI `t`, and the
reported target is a synset of the scope carrying `t` — or the placeholder carrying `t` when the
scope has none -/
theorem C12_expanded_exact (db : Db) (w : Wordnet) (x : SynsetData) (types : List String) (ili : String)
    (hili : x.ili = some ili) (hexp : w.expids ≠ []) (e : RelData SynsetData × String × SynsetData) :
    e ∈ expandedSynsetRelations db w x types ↔
      ∃ r ∈ synsetRelations db ((expandSources db w x ili).map (·.rowid)) types w.expids,
        ∃ t, r.target.ili = some t ∧ e.1 = r ∧
          e.2.1 = (((expandSources db w x ili).find? (fun s => s.rowid == r.source)).map (·.id)).getD "" ∧
          ((e.2.2 ∈ synsetsForIlis db [t] (entityLexids db w x.lex)) ∨
           (synsetsForIlis db [t] (entityLexids db w x.lex) = [] ∧ e.2.2 = inferred t x.lex)) := by
  unfold expandedSynsetRelations
  have hne : w.expids.isEmpty = false := by simpa [List.isEmpty_iff] using hexp
  simp only [hili, hne, Bool.false_eq_true, if_false, List.mem_flatMap]
  refine exists_congr fun r => and_congr_right fun _ => ?_
  cases r.target.ili with
  | none => simp
  | some t =>
    obtain ⟨e1, e2, e3⟩ := e
    simp only [mem_map_or_default, Option.some.injEq, exists_eq_left', Prod.mk.injEq, expandSources]
    constructor
    · rintro (⟨l, hl, rfl, rfl, rfl⟩ | ⟨h, rfl, rfl, rfl⟩)
      · exact ⟨rfl, rfl, Or.inl hl⟩
      · exact ⟨rfl, rfl, Or.inr ⟨h, rfl⟩⟩
    · rintro ⟨rfl, rfl, hl | ⟨h, rfl⟩⟩
      · exact Or.inl ⟨e3, hl, rfl, rfl, rfl⟩
      · exact Or.inr ⟨h, rfl, rfl, rfl⟩

theorem C12_target_ili (db : Db) (t : String) (lexids : List Nat) (y : SynsetData)
    (h : y ∈ synsetsForIlis db [t] lexids) : y.ili = some t ∧ y.lex ∈ lexids := by
  simp only [synsetsForIlis, List.mem_map, List.mem_filter, Bool.and_eq_true, inLex, List.contains_iff_mem] at h
  obtain ⟨row, ⟨_, hi, hl⟩, rfl⟩ := h
  refine ⟨?_, hl⟩
  split at hi
  · -- the row passed `[t].contains (iliIdOf …)`, and `synsetData` copies that `iliIdOf` into `.ili`
    rename_i j hj
    cases List.mem_singleton.mp (List.contains_iff_mem.mp hi)
    exact hj
  · cases hi

theorem C12_target_complete (db : Db) (t : String) (lexids : List Nat) (row : RSynset) (hrow : row ∈ db.synsets)
    (hi : iliIdOf db row.ili = some t) (hl : row.lex ∈ lexids) : synsetData db row ∈ synsetsForIlis db [t] lexids := by
  simp only [synsetsForIlis, List.mem_map, List.mem_filter, Bool.and_eq_true, inLex, List.contains_iff_mem]
  exact ⟨row, ⟨hrow, by simp [hi], hl⟩, rfl⟩

theorem ili_expids_of_mem_expanded (db : Db) (w : Wordnet) (x : SynsetData) (types : List String)
    (e : RelData SynsetData × String × SynsetData) (h : e ∈ expandedSynsetRelations db w x types) :
    ∃ ili, x.ili = some ili ∧ w.expids ≠ [] := by
  unfold expandedSynsetRelations at h
  split at h
  · cases h
  · rename_i ili hili
    split at h
    · cases h
    · rename_i hexp
      exact ⟨ili, hili, by simpa using hexp⟩

theorem C12_targets_without_ili_dropped (db : Db) (w : Wordnet) (x : SynsetData) (types : List String)
    (e : RelData SynsetData × String × SynsetData) (h : e ∈ expandedSynsetRelations db w x types) :
    e.1.target.ili ≠ none ∧ e.2.2.ili = e.1.target.ili := by
  obtain ⟨ili, hili, hexp⟩ := ili_expids_of_mem_expanded db w x types e h
  obtain ⟨r, _, t, ht, h1, _, h3⟩ := (C12_expanded_exact db w x types ili hili hexp e).mp h
  rw [h1, ht]
  refine ⟨nofun, ?_⟩
  rcases h3 with h3 | ⟨_, h3⟩
  · exact (C12_target_ili db t _ _ h3).1
  · rw [h3]; rfl

/-- the relation is reported as the expand lexicon stores it: its row and its own target are owned
by expand lexicons -/
theorem C12_keeps_expand_relation (db : Db) (w : Wordnet) (x : SynsetData) (types : List String)
    (e : RelData SynsetData × String × SynsetData) (h : e ∈ expandedSynsetRelations db w x types) :
    e.1.target.lex ∈ w.expids ∧ ∃ row ∈ db.synrels, row.lex ∈ w.expids ∧ e.1.lexicon = lexSpec db row.lex ∧
      e.1.md = row.md ∧ e.1.source = row.source := by
  obtain ⟨ili, hili, hexp⟩ := ili_expids_of_mem_expanded db w x types e h
  obtain ⟨r, hr, _, _, h1, _⟩ := (C12_expanded_exact db w x types ili hili hexp e).mp h
  obtain ⟨row, hrow, tgt, _, hl, _, _, htl, e'⟩ := mem_synsetRelations hr
  rw [h1, e']
  exact ⟨htl, row, hrow, hl, rfl, rfl, rfl⟩

/-- own relations come first, borrowed ones after, as the two `yield from` of `Synset._iter_relations`
stand; true by definition of `synsetIterRelations`, recorded for the reader -/
theorem C12_own_then_borrowed (db : Db) (w : Wordnet) (x : SynsetData) (types : List String) :
    synsetIterRelations db w x types =
      (localSynsetRelations db w x types).map (fun r => (⟨r.name, x.id, r.target.id, r.lexicon, r.md⟩, r.target)) ++
      (expandedSynsetRelations db w x types).map (fun (r, src, tgt) => (⟨r.name, src, r.target.id, r.lexicon, r.md⟩, tgt)) := rfl

theorem C12_no_expand_own_only (db : Db) (w : Wordnet) (x : SynsetData) (types : List String) (h : w.expids = []) :
    synsetIterRelations db w x types =
      (localSynsetRelations db w x types).map (fun r => (⟨r.name, x.id, r.target.id, r.lexicon, r.md⟩, r.target)) := by
  unfold synsetIterRelations expandedSynsetRelations
  cases x.ili <;> simp [h]

theorem C12_no_ili_own_only (db : Db) (w : Wordnet) (x : SynsetData) (types : List String) (h : x.ili = none) :
    expandedSynsetRelations db w x types = [] := by
  unfold expandedSynsetRelations; rw [h]

/-- what a successful `Wordnet.__init__` has set: lexicons, mode, the missing dependencies it warns
about, expand lexicons -/
theorem mkWordnet_some (db : Db) (lexicon lang expand : Option String) (nrm af : Bool) (w : Wordnet) :
    mkWordnet db lexicon lang expand nrm af = some w →
    ∃ lexs, findLexicons db (if truthy lexicon then lexicon.getD "*" else "*") lang = some lexs ∧
      let deps := (lexs.map (·.rowid)).flatMap (fun l => db.deps.filter (fun d => d.dependent == l))
      let spec := match expand with
        | some e => e
        | none => if !truthy lexicon && !truthy lang then "*"
            else " ".intercalate ((deps.filter (fun d => d.provider.isSome)).map (fun d => d.pid ++ ":" ++ d.pver))
      w.lexids = lexs.map (·.rowid) ∧ w.defaultMode = (!truthy lexicon && !truthy lang) ∧
      w.missing = (if expand.isNone && !(!truthy lexicon && !truthy lang)
        then (deps.filter (fun d => d.provider.isNone)).map (fun d => d.pid ++ ":" ++ d.pver) else []) ∧
      (if spec == "" then w.expids = [] else ∃ ex, findLexicons db spec none = some ex ∧ w.expids = ex.map (·.rowid)) := by
  intro h
  unfold mkWordnet at h
  split at h
  · cases h
  · rename_i lexs hl
    refine ⟨lexs, hl, ?_⟩
    intro deps spec
    change (if (spec == "") = true then _ else _) = some w at h
    split at h
    · rename_i hs
      cases h
      exact ⟨rfl, rfl, rfl, by rw [if_pos hs]⟩
    · rename_i hs
      split at h
      · cases h
      · rename_i ex hex
        cases h
        exact ⟨rfl, rfl, rfl, by rw [if_neg hs]; exact ⟨ex, hex, rfl⟩⟩

/-- stated, like the next two, for the default `normalizer` and `allForms` arguments of `mkWordnet`;
`mkWordnet_some` has them as variables -/
theorem C12_expand_empty_string (db : Db) (lexicon lang : Option String) (w : Wordnet)
    (h : mkWordnet db lexicon lang (some "") = some w) : w.expids = [] := by
  obtain ⟨_, _, _, _, _, he⟩ := mkWordnet_some db lexicon lang (some "") true true w h
  exact he

/-- default expansion of a restricted Wordnet: exactly the declared dependencies that are
installed (`provider_rowid` not null), resolved through `find_lexicons`; the missing ones are
reported (the warning) -/
theorem C12_default_expand_restricted (db : Db) (lexicon lang : Option String) (w : Wordnet)
    (hr : (!truthy lexicon && !truthy lang) = false) (h : mkWordnet db lexicon lang none = some w) :
    ∃ lexs, findLexicons db (if truthy lexicon then lexicon.getD "*" else "*") lang = some lexs ∧
      w.lexids = lexs.map (·.rowid) ∧
      let deps := (lexs.map (·.rowid)).flatMap (fun l => db.deps.filter (fun d => d.dependent == l))
      let spec := " ".intercalate ((deps.filter (fun d => d.provider.isSome)).map (fun d => d.pid ++ ":" ++ d.pver))
      w.missing = (deps.filter (fun d => d.provider.isNone)).map (fun d => d.pid ++ ":" ++ d.pver) ∧
      (if spec == "" then w.expids = [] else ∃ ex, findLexicons db spec none = some ex ∧ w.expids = ex.map (·.rowid)) := by
  obtain ⟨lexs, hl, h1, _, hm, he⟩ := mkWordnet_some db lexicon lang none true true w h
  rw [hr] at hm he
  exact ⟨lexs, hl, h1, hm, he⟩

theorem C12_default_expand_unrestricted (db : Db) (w : Wordnet)
    (h : mkWordnet db none none none = some w) :
    w.defaultMode = true ∧ ∃ ex, findLexicons db "*" none = some ex ∧ w.expids = ex.map (·.rowid) := by
  obtain ⟨_, _, _, hd, _, he⟩ := mkWordnet_some db none none none true true w h
  -- `he` is `if "*" == "" then … else …`: it passes for its `else` branch because the test unfolds to `false`
  exact ⟨hd, he⟩

end WnVerif.Props.C12
