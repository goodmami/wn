/-
C13 — the functions of `taxonomy.py` against graph-theoretic definitions on any hypernym graph.
Lowest common hypernyms are characterised through the model's own path map only, and
`shortest_path` in its self and error cases only.

`g : Adj` is the hypernym relation of one lexicon (`get_related('hypernym',
'instance_hypernym')` per synset), nodes are `< n`.  The theorems hold for all such graphs,
with or without cycles and self-loops; the one exception is `C13_depth_acyclic_partial`, which
assumes an acyclic graph and fails without (`C13_depth_cyclic_counterexample`).  The model
functions are total by structural recursion on a fuel, and `mem_relPaths` shows that the fuel
`n + 1` loses no path.
-/
import WnVerif.Lemmas.Acyclic
namespace WnVerif.Props.C13
open WnVerif.Graph

/-- hypernym_paths(x) is exactly the set of maximal simple hypernym chains from x
(non-empty ones: a synset without hypernyms has no path). -/
theorem C13_paths (g : Adj) (n : Nat) (h : InRange g n) (x : Nat) (q : List N) :
    q ∈ hypPaths g (n + 1) (some x) false false ↔
      ∃ p, q = p.map some ∧ p ≠ [] ∧ MaximalSimpleChain g [x] x p := by
  simp only [hypPaths_plain, List.mem_map, mem_relPaths g n h]
  exact ⟨fun ⟨p, hp, e⟩ => ⟨p, e.symm, hp⟩, fun ⟨p, e, hp⟩ => ⟨p, hp, e.symm⟩⟩

theorem C13_paths_simple (g : Adj) (n : Nat) (h : InRange g n) (x : Nat) (p : List Nat)
    (hp : p ∈ relPaths g (n + 1) x) : (x :: p).Nodup := by
  obtain ⟨_, _, hnd, havoid, _⟩ := (mem_relPaths g n h x p).mp hp
  exact List.nodup_cons.mpr ⟨fun hx => havoid x hx (List.mem_singleton_self x), hnd⟩

/-- with simulate_root every chain is continued to the fake root, and a synset
without hypernyms gets the single chain `[*ROOT*]` -/
theorem C13_paths_simulate_root (g : Adj) (fuel : Nat) (x : Nat) (q : List N) :
    q ∈ hypPaths g fuel (some x) true false ↔
      (∃ p ∈ hypPaths g fuel (some x) false false, q = p ++ [none]) ∨
      (hypPaths g fuel (some x) false false = [] ∧ q = [none]) := by
  rw [hypPaths_simRoot]
  exact mem_map_or_default _ _ _ q

/-- min_depth is the length of the shortest of the chains (0 without chains) -/
theorem C13_min_depth (g : Adj) (fuel : Nat) (x : Nat) (sim : Bool) :
    (∀ p ∈ hypPaths g fuel (some x) sim false, minDepth g fuel x sim ≤ p.length) ∧
    (hypPaths g fuel (some x) sim false ≠ [] →
       ∃ p ∈ hypPaths g fuel (some x) sim false, p.length = minDepth g fuel x sim) ∧
    (hypPaths g fuel (some x) sim false = [] → minDepth g fuel x sim = 0) :=
  ⟨fun _ hp => listMin_le _ _ (List.mem_map_of_mem hp),
    fun hne => List.mem_map.mp (listMin_mem _ (mt List.map_eq_nil_iff.mp hne)),
    fun he => by rw [minDepth, he]; rfl⟩

/-- max_depth is the length of the longest of the chains (0 without chains) -/
theorem C13_max_depth (g : Adj) (fuel : Nat) (x : Nat) (sim : Bool) :
    (∀ p ∈ hypPaths g fuel (some x) sim false, p.length ≤ maxDepth g fuel (some x) sim) ∧
    (hypPaths g fuel (some x) sim false ≠ [] →
       ∃ p ∈ hypPaths g fuel (some x) sim false, p.length = maxDepth g fuel (some x) sim) ∧
    (hypPaths g fuel (some x) sim false = [] → maxDepth g fuel (some x) sim = 0) :=
  ⟨fun _ hp => le_listMax _ _ (List.mem_map_of_mem hp),
    fun hne => List.mem_map.mp (listMax_mem _ (mt List.map_eq_nil_iff.mp hne)),
    fun he => by rw [maxDepth, he]; rfl⟩

/-- common_hypernyms(a, b) is the intersection of the two ancestor sets, each
including the synset itself -/
theorem C13_common (g : Adj) (n : Nat) (h : InRange g n) (a b y : Nat) :
    (some y : N) ∈ commonHypernyms g (n + 1) (some a) (some b) false ↔ Reach g a y ∧ Reach g b y := by
  simp only [mem_commonHypernyms, mem_flatten_hypPaths_self, Option.some.injEq, exists_eq_right',
    self_or_on_relPaths_iff_reach g n h]

theorem C13_common_no_root (g : Adj) (fuel : Nat) (a b : Nat) :
    (none : N) ∉ commonHypernyms g fuel (some a) (some b) false := by
  intro h
  rcases (mem_flatten_hypPaths_self ..).mp ((mem_commonHypernyms ..).mp h).1 with h | ⟨_, _, _, _, h⟩ <;> cases h

/-- lowest_common_hypernyms = the common hypernyms of greatest recorded depth -/
theorem C13_lowest (g : Adj) (fuel : Nat) (a b : N) (sim : Bool) (c : N) :
    c ∈ lowestCommonHypernyms g fuel a b sim ↔
      ∃ d, (c, d) ∈ (shortestHypPaths g fuel a b sim).map (·.1) ∧
        d = listMax ((shortestHypPaths g fuel a b sim).map (·.1.2)) := by
  unfold lowestCommonHypernyms
  cases hpm : shortestHypPaths g fuel a b sim with
  | nil => simp
  | cons e t =>
    simp only [List.mem_map, List.mem_filter, beq_iff_eq]
    exact ⟨fun ⟨x, ⟨hx, hd⟩, hc⟩ => ⟨x.1.2, ⟨x, hx, by rw [← hc]⟩, hd⟩,
      fun ⟨d, ⟨x, hx, hxe⟩, hd⟩ => ⟨x, ⟨hx, by rw [hxe]; exact hd⟩, by rw [hxe]⟩⟩

/-- the keys of the path map are exactly the common hypernyms (for distinct synsets) -/
theorem C13_pathmap_keys (g : Adj) (fuel : Nat) (a b : N) (sim : Bool) (hab : (a == b) = false) :
    (shortestHypPaths g fuel a b sim).map (·.1.1) = commonHypernyms g fuel a b sim := by
  simp [shortestHypPaths, hab, commonHypernyms, List.map_map, Function.comp_def]

theorem C13_shortest_self (g : Adj) (fuel : Nat) (a : N) (sim : Bool) :
    shortestPath g fuel a a sim = some [] := by
  simp [shortestPath, shortestHypPaths]

/-- shortest_path raises exactly when the two synsets share no hypernym -/
theorem C13_error_iff_disjoint (g : Adj) (fuel : Nat) (a b : N) (sim : Bool) (hab : (a == b) = false) :
    shortestPath g fuel a b sim = none ↔ commonHypernyms g fuel a b sim = [] := by
  rw [← C13_pathmap_keys g fuel a b sim hab]
  unfold shortestPath
  cases shortestHypPaths g fuel a b sim with
  | nil => simp
  | cons e t => simp

/-- with simulate_root the fake root is always shared, so no error -/
theorem C13_simulate_root_connects (g : Adj) (fuel : Nat) (a b : Nat) :
    (none : N) ∈ commonHypernyms g fuel (some a) (some b) true :=
  (mem_commonHypernyms_simRoot ..).mpr (Or.inl rfl)

theorem C13_roots (g : Adj) (n : Nat) (pos : Nat → String) (p : String) (x : Nat) :
    x ∈ roots g n pos p ↔ x ∈ synsetsForPos n pos p ∧ g x = [] := by
  simp [roots, List.mem_filter, List.isEmpty_iff]

theorem C13_leaves (hypo : Adj) (n : Nat) (pos : Nat → String) (p : String) (x : Nat) :
    x ∈ leaves hypo n pos p ↔ x ∈ synsetsForPos n pos p ∧ hypo x = [] :=
  C13_roots hypo n pos p x

/-- a/s merging of `_synsets_for_pos` -/
theorem C13_pos_merge (n : Nat) (pos : Nat → String) (x : Nat) :
    (x ∈ synsetsForPos n pos "a" ↔ x < n ∧ (pos x = "a" ∨ pos x = "s")) ∧
    (x ∈ synsetsForPos n pos "s" ↔ x < n ∧ (pos x = "a" ∨ pos x = "s")) := by
  constructor
  · simp [synsetsForPos, List.mem_filter, List.mem_range, and_or_left]
  · simp [synsetsForPos, List.mem_filter, List.mem_range, and_or_left, or_comm]

/-- the state of the loop of `taxonomy_depth` after the synsets `done`: the depth is the longest
chain of the synsets handled so far, and every seen synset lies strictly below it -/
def DepthInv (g : Adj) (n : Nat) (done : List Nat) (st : List Nat × Nat) : Prop :=
  st.2 = listMax (done.map (L g n)) ∧ ∀ h ∈ st.1, 1 + L g n h ≤ st.2

theorem DepthInv.skip {g : Adj} {n : Nat} {done : List Nat} {st : List Nat × Nat} (hinv : DepthInv g n done st)
    {i : Nat} (hi : L g n i ≤ st.2) : DepthInv g n (done ++ [i]) st :=
  ⟨by rw [List.map_append, List.map_singleton, listMax_concat, ← hinv.1, Nat.max_eq_left hi], hinv.2⟩

/-- the `if` is the body of the local `step` of `taxonomyDepth` with the pair `st` taken apart by
projections -/
theorem depth_step (g : Adj) (n : Nat) (hr : InRange g n) (hac : Acyclic g) (done : List Nat) (st : List Nat × Nat)
    (i : Nat) (hinv : DepthInv g n done st) :
    DepthInv g n (done ++ [i])
      (if (g i).all (fun h => st.1.contains h) then st
       else if (relPaths g (n + 1) i).isEmpty then st
       else ((relPaths g (n + 1) i).flatten ++ st.1, max st.2 (listMax ((relPaths g (n + 1) i).map List.length)))) := by
  split
  · -- skipped: every hypernym was seen, so lies strictly below the depth
    rename_i hall
    exact hinv.skip (L_le_of_hypernyms g n hr hac i _ fun y hy =>
      hinv.2 y (by simpa using List.all_eq_true.mp hall y hy))
  · split
    · rename_i hemp
      exact hinv.skip (by rw [L, List.isEmpty_iff.mp hemp]; exact Nat.zero_le _)
    · refine ⟨by rw [List.map_append, List.map_singleton, listMax_concat, ← hinv.1]; rfl, fun h hh => ?_⟩
      rcases List.mem_append.mp hh with hh | hh
      · obtain ⟨p, hp, hhp⟩ := List.mem_flatten.mp hh
        have hc := ((mem_relPaths_acyclic g n hr hac i p).mp hp).2.1
        exact Nat.le_trans (L_on_path g n hr hac p i hc h hhp) (Nat.le_max_right _ _)
      · exact Nat.le_trans (hinv.2 h hh) (Nat.le_max_left _ _)

/-- `taxonomy_depth` is the longest hypernym chain on every acyclic taxonomy.  "partial": on cyclic
graphs the two differ (`C13_depth_cyclic_counterexample`, known finding F14). -/
theorem C13_depth_acyclic_partial (g : Adj) (n : Nat) (hr : InRange g n) (hac : Acyclic g) (pos : Nat → String) (p : String) :
    taxonomyDepth g (n + 1) n pos p = longestChain g (n + 1) n pos p :=
  -- `taxonomyDepth` unfolds to `.2` of the fold of the step that `depth_step` is about, and
  -- `longestChain` to `listMax` of `L g n` over the same synsets: the claim is the first half of the
  -- invariant when the loop is through
  (foldl_inv _ (DepthInv g n) (depth_step g n hr hac) (synsetsForPos n pos p) [] ([], 0) ⟨rfl, nofun⟩).1

/-- non-vacuity: a diamond with a tail (0→1, 0→2, 1→3, 2→3, 3→4) is acyclic and in range -/
def diamondTail : Adj := fun i => match i with
  | 0 => [1, 2]
  | 1 => [3]
  | 2 => [3]
  | 3 => [4]
  | _ => []

example : Acyclic diamondTail ∧ InRange diamondTail 5 := by
  have key : ∀ x, ∀ t ∈ diamondTail x, x < t ∧ t < 5 := by
    intro x
    match x with
    | 0 | 1 | 2 | 3 => decide
    | k + 4 => nofun
  exact ⟨⟨fun i => 5 - i, fun x t ht => by have := key x t ht; show 5 - t < 5 - x; omega⟩,
    fun x t ht => (key x t ht).2⟩

example : taxonomyDepth diamondTail 6 5 (fun _ => "n") "n" = 3 := by decide

def cyc3 : Adj := fun i => match i with
  | 0 => [0, 2]
  | 1 => [2]
  | 2 => [0]
  | _ => []

/-- the `seen` shortcut is wrong on cyclic graphs: on 0→0, 0→2, 1→2, 2→0 the model of
`taxonomy_depth` returns 1 while the longest hypernym chain is 1 → 2 → 0.  The same graph is
replayed on the real library (corpus/C13/F14-taxonomy-depth-cyclic.json). -/
theorem C13_depth_cyclic_counterexample :
    taxonomyDepth cyc3 4 3 (fun _ => "n") "n" = 1 ∧ longestChain cyc3 4 3 (fun _ => "n") "n" = 2 := by
  decide

end WnVerif.Props.C13
