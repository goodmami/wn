/-
Attributes of the LMF tree model (`Model/Lmf.lean`): what `attr` reads from an attribute list put
together the way the serializer does it (required pairs, `optAttr`, conditional pairs, `metaAttrs`,
joined by `++`), and what `metaOf` extracts from it.  The rewriting lemmas are meant as `simp`
lemmas: `simp` itself settles the comparisons of attribute names, which are string literals.
-/
import WnVerif.Model.Lmf
namespace WnVerif.Lmf
open WnVerif.Doc

def lookup (l : List (String × String)) (k : String) : Option String := (l.find? (fun e => e.1 == k)).map (·.2)

@[simp] theorem attr_elem (n : String) (A : List (String × String)) (t : String) (c : List Xml) (k : String) :
    attr (.elem n A t c) k = lookup A k := rfl

@[simp] theorem lookup_nil (k : String) : lookup [] k = none := rfl

@[simp] theorem lookup_cons (k' s : String) (l : List (String × String)) (k : String) :
    lookup ((k', s) :: l) k = if k' = k then some s else lookup l k := by
  unfold lookup
  by_cases h : k' = k <;> simp [h]

@[simp] theorem lookup_append (a b : List (String × String)) (k : String) :
    lookup (a ++ b) k = (lookup a k).or (lookup b k) := by
  unfold lookup
  rw [List.find?_append]
  cases List.find? (fun e => e.1 == k) a <;> rfl

@[simp] theorem lookup_ite (c : Prop) [Decidable c] (a b : List (String × String)) (k : String) :
    lookup (if c then a else b) k = if c then lookup a k else lookup b k :=
  apply_ite (lookup · k) c a b

/-- "not the empty string": `x or None` in the loader and `if x:` in the serializer agree -/
def NFopt (o : Option String) : Prop := o ≠ some ""

@[simp] theorem lookup_optAttr_self (k : String) (o : Option String) (h : NFopt o) : lookup (optAttr k o) k = o := by
  cases o with
  | none => rfl
  | some s =>
    have : s ≠ "" := fun e => h (by rw [e])
    simp [optAttr, this, lookup_cons]

@[simp] theorem lookup_optAttr_ne (k k' : String) (o : Option String) (h : k' ≠ k) : lookup (optAttr k' o) k = none := by
  unfold optAttr
  split
  · rw [lookup_ite, lookup_cons, if_neg h, lookup_nil, ite_self]
  · rfl

theorem optAttr_truthy (k : String) (o : Option String) : (if truthy o then optAttr k o else []) = optAttr k o := by
  cases o with
  | none => rfl
  | some s => by_cases h : s = "" <;> simp [truthy, optAttr, h]

@[simp] theorem boolAttr_flag (b : Option Bool) (h : b ≠ some true) :
    boolAttr (if b = some false then some "false" else none) = b := by
  match b, h with
  | none, _ => rfl
  | some false, _ => simp [boolAttr]

/-! A version gate in the serializer (`if atLeast11 v then … else []`, `atLeast11 v && …`) is invisible on a
document in normal form, where what the gate withholds is absent anyway. -/

theorem gated {α} (c : Bool) (a : List α) (h : c = false → a = []) : (if c then a else []) = a := by
  cases c with
  | true => rfl
  | false => exact (h rfl).symm

theorem gate_and (c d : Bool) (h : c = false → d = false) : (c && d) = d := by
  cases c with
  | true => rfl
  | false => exact (h rfl).symm

/-- the attribute names `_meta_dict` can emit -/
def metaKeyNames : List String := dcKeys.map ("dc:" ++ ·) ++ ["status", "note", "confidenceScore"]

theorem pickKey_dc (k : String) (hk : k ∈ dcKeys) : pickKey ("dc:" ++ k) = some k := by
  have h : ("dc:" ++ k).toList = 'd' :: 'c' :: ':' :: k.toList := by rw [String.toList_append]; rfl
  simp [pickKey, h, hk]

theorem pickKey_unprefixed : ∀ k ∈ ["status", "note", "confidenceScore"], pickKey k = some k := by decide +kernel

theorem pickKey_metaKeyNames (k : String) (h : k ∈ metaKeyNames) : pickKey k ≠ none := by
  rcases List.mem_append.mp h with h | h
  · obtain ⟨d, hd, rfl⟩ := List.mem_map.mp h
    rw [pickKey_dc d hd]; exact Option.some_ne_none d
  · rw [pickKey_unprefixed k h]; exact Option.some_ne_none k

theorem mem_flatMap_optAttr (g : String → String) (get : String → Option String) (K : List String) (e : String × String)
    (h : e ∈ K.flatMap (fun k => optAttr (g k) (get k))) : e.1 ∈ K.map g := by
  obtain ⟨k, hk, he⟩ := List.mem_flatMap.mp h
  unfold optAttr at he
  split at he
  · split at he
    · rw [List.mem_singleton.mp he]; exact List.mem_map_of_mem hk
    · cases he
  · cases he

theorem metaAttrs_keys (m : Option Meta) (e : String × String) (h : e ∈ metaAttrs m) : e.1 ∈ metaKeyNames := by
  unfold metaAttrs at h
  cases m with
  | none => cases h
  | some kv =>
    simp only [List.mem_append] at h
    unfold metaKeyNames
    rcases h with (h | h) | h
    · exact List.mem_append_left _ (mem_flatMap_optAttr ("dc:" ++ ·) _ dcKeys e h)
    · have := mem_flatMap_optAttr id _ plainMetaKeys e h
      rw [List.map_id] at this
      exact List.mem_append_right _ (List.mem_append_left ["confidenceScore"] this)
    · split at h
      · rw [List.mem_singleton.mp h]; simp
      · cases h

@[simp] theorem lookup_metaAttrs (m : Option Meta) (k : String) (h : pickKey k = none) : lookup (metaAttrs m) k = none := by
  unfold lookup
  rw [Option.map_eq_none_iff, List.find?_eq_none]
  intro e he heq
  exact pickKey_metaKeyNames k (eq_of_beq heq ▸ metaAttrs_keys m e he) h

/-- canonical form of a metadata dictionary: Dublin-Core keys in table order, then status, note
(non-empty values), then confidenceScore -/
def canonMeta (kv : Meta) : Meta :=
  let get (k : String) : Option String := (kv.find? (fun e => e.1 == k)).map (·.2)
  dcKeys.flatMap (fun k => optAttr k (get k)) ++ plainMetaKeys.flatMap (fun k => optAttr k (get k)) ++
  (match get "confidenceScore" with | some s => [("confidenceScore", s)] | none => [])

theorem metaPick_eq (k v k' : String) (h : pickKey k = some k') : metaPick (k, v) = some (k', v) := by
  simp [metaPick, h]

theorem filterMap_flatMap_optAttr (g : String → String) (get : String → Option String) :
    ∀ (K : List String), (∀ k ∈ K, pickKey (g k) = some k) →
      (K.flatMap (fun k => optAttr (g k) (get k))).filterMap metaPick = K.flatMap (fun k => optAttr k (get k)) := by
  intro K
  induction K with
  | nil => intro _; rfl
  | cons a t ih =>
    intro h
    rw [List.flatMap_cons, List.flatMap_cons, List.filterMap_append, ih (fun k hk => h k (List.mem_cons_of_mem _ hk))]
    congr 1
    unfold optAttr
    split
    · split
      · rw [List.filterMap_cons, metaPick_eq _ _ _ (h a List.mem_cons_self)]; rfl
      · rfl
    · rfl

theorem filterMap_metaAttrs (kv : Meta) : (metaAttrs (some kv)).filterMap metaPick = canonMeta kv := by
  unfold metaAttrs canonMeta
  rw [List.filterMap_append, List.filterMap_append, filterMap_flatMap_optAttr ("dc:" ++ ·) _ dcKeys pickKey_dc,
    filterMap_flatMap_optAttr (fun k => k) _ plainMetaKeys (fun k hk => pickKey_unprefixed k (List.mem_append_left _ hk))]
  congr 1
  dsimp only
  generalize (kv.find? (fun e => e.1 == "confidenceScore")).map (·.2) = o
  cases o with
  | none => rfl
  | some s => rw [List.filterMap_cons, metaPick_eq _ _ _ (pickKey_unprefixed "confidenceScore" (by simp))]; rfl

/-- normal form of a metadata value: absent, or a non-empty dictionary in canonical order with
non-empty values (every Python dict has exactly one such representative up to its empty values) -/
def NFmeta (m : Option Meta) : Prop :=
  match m with
  | none => True
  | some kv => kv ≠ [] ∧ canonMeta kv = kv

@[simp] theorem mkMeta_filterMap_metaAttrs (m : Option Meta) (h : NFmeta m) : mkMeta ((metaAttrs m).filterMap metaPick) = m := by
  cases m with
  | none => rfl
  | some kv =>
    rw [filterMap_metaAttrs, h.2]
    unfold mkMeta
    rw [if_neg (by simpa using h.1)]

@[simp] theorem metaOf_elem (n : String) (A : List (String × String)) (t : String) (c : List Xml) :
    metaOf (.elem n A t c) = mkMeta (A.filterMap metaPick) := rfl

/-- the serializer's own attribute names on elements that carry metadata: none is a metadata name -/
@[simp] theorem pickKey_plainAttrs :
    pickKey "id" = none ∧ pickKey "target" = none ∧ pickKey "relType" = none ∧ pickKey "language" = none ∧
    pickKey "sourceSense" = none ∧ pickKey "synset" = none ∧ pickKey "lexicalized" = none ∧ pickKey "adjposition" = none ∧
    pickKey "subcat" = none ∧ pickKey "ili" = none ∧ pickKey "partOfSpeech" = none ∧ pickKey "members" = none ∧
    pickKey "lexfile" = none ∧ pickKey "label" = none ∧ pickKey "email" = none ∧ pickKey "license" = none ∧
    pickKey "version" = none ∧ pickKey "url" = none ∧ pickKey "citation" = none ∧ pickKey "logo" = none := by
  decide +kernel

@[simp] theorem filterMap_metaPick_cons (k v : String) (l : List (String × String)) (h : pickKey k = none) :
    ((k, v) :: l).filterMap metaPick = l.filterMap metaPick := by
  simp [metaPick, h]

@[simp] theorem filterMap_metaPick_optAttr (k : String) (o : Option String) (h : pickKey k = none) :
    (optAttr k o).filterMap metaPick = [] := by
  unfold optAttr
  split
  · split
    · rw [filterMap_metaPick_cons k _ _ h]; rfl
    · rfl
  · rfl

@[simp] theorem filterMap_metaPick_ite (c : Prop) [Decidable c] (a b : List (String × String)) :
    (if c then a else b).filterMap metaPick = if c then a.filterMap metaPick else b.filterMap metaPick :=
  apply_ite (List.filterMap metaPick) c a b

end WnVerif.Lmf
