/-
C17 — Morphy returns only valid lemmas when initialised and all candidates otherwise.
Model: `Model/Morphy.lean` (transcription of `wn/morphy.py`).
-/
import WnVerif.Model.Morphy
import WnVerif.Gen.Morphy
namespace WnVerif.Props.C17
open WnVerif.Morphy

/-- the rule table of the model is the one the source computes (`Morphy()._rules` after the
`_System.WN` filter), and `posOrder` is the key order of `DETACHMENT_RULES` -/
theorem C17_rules_eq_source : WnVerif.Gen.morphy_rules = rules ∧ WnVerif.Gen.morphy_pos_order = posOrder :=
  ⟨rfl, rfl⟩

/-- satellite adjectives share the adjective rules -/
theorem C17_sat_rules : rulesFor "s" = rulesFor "a" := by decide +kernel

theorem mem_lemmas (ws : List Word) (pos : String) (l : Str) :
    l ∈ lemmas ws pos ↔ ∃ w ∈ ws, w.pos = pos ∧ w.forms.head? = some l := by
  simp only [lemmas, List.mem_filterMap, Option.ite_none_right_eq_some, beq_iff_eq]

theorem mem_exceptionsOf (ws : List Word) (pos : String) (form l : Str) :
    l ∈ exceptionsOf ws pos form ↔ ∃ w ∈ ws, w.pos = pos ∧ ∃ others, w.forms = l :: others ∧ form ∈ others := by
  simp only [exceptionsOf, List.mem_filterMap]
  refine exists_congr fun w => and_congr_right fun _ => ?_
  cases w.forms with
  | nil => simp
  | cons lemma others =>
    simp only [Option.ite_none_right_eq_some, Bool.and_eq_true, beq_iff_eq, List.contains_iff_mem, Option.some.injEq]
    constructor
    · rintro ⟨⟨hp, hm⟩, rfl⟩
      exact ⟨hp, others, rfl, hm⟩
    · rintro ⟨hp, _, ho, hm⟩
      cases ho
      exact ⟨⟨hp, hm⟩, rfl⟩

theorem applyRule_eq_some (form : Str) (r : Str × Str) (c : Str) :
    applyRule form r = some c ↔
      r.1.isSuffixOf form = true ∧ r.1.length < form.length ∧ c = form.take (form.length - r.1.length) ++ r.2 := by
  rw [applyRule, Option.ite_none_right_eq_some, Bool.and_eq_true, decide_eq_true_eq, and_assoc, Option.some.injEq,
    eq_comm (a := c)]

theorem mem_morphstr_init (ws : List Word) (form : Str) (pos : String) (l : Str) :
    l ∈ morphstr (some ws) form pos ↔
      (l = form ∧ form ∈ lemmas ws pos) ∨ l ∈ exceptionsOf ws pos form ∨
      (∃ r ∈ rulesFor pos, applyRule form r = some l ∧ l ∈ lemmas ws pos) := by
  simp only [morphstr, List.mem_append, List.mem_filterMap, or_assoc]
  refine or_congr ?_ (or_congr_right (exists_congr fun r => and_congr_right fun _ => ?_))
  · by_cases hc : form ∈ lemmas ws pos <;> simp [hc]
  · cases applyRule form r with
    | none => simp
    | some c => by_cases hc : c ∈ lemmas ws pos <;> simpa [hc] using fun e : c = l => e ▸ hc

/-- an initialised Morphy returns, for each part of speech, only lemmas of
the wordnet's words of that part of speech -/
theorem C17_sound (ws : List Word) (form : Str) (pos : String) (l : Str)
    (h : l ∈ morphstr (some ws) form pos) : l ∈ lemmas ws pos := by
  rcases (mem_morphstr_init ws form pos l).mp h with ⟨rfl, hl⟩ | h | ⟨_, _, _, hl⟩
  · exact hl
  · obtain ⟨w, hw, hp, others, hf, _⟩ := (mem_exceptionsOf ws pos form l).mp h
    exact (mem_lemmas ws pos l).mpr ⟨w, hw, hp, by simp [hf]⟩
  · exact hl

/-- completeness, first source: the query itself when it is a lemma of the part of speech -/
theorem C17_complete_self (ws : List Word) (form : Str) (pos : String) (h : form ∈ lemmas ws pos) :
    form ∈ morphstr (some ws) form pos :=
  (mem_morphstr_init ws form pos form).mpr (Or.inl ⟨rfl, h⟩)

/-- completeness, second source: every lemma of a word of the part of speech that lists the query among its further forms -/
theorem C17_complete_exceptions (ws : List Word) (form : Str) (pos : String) (w : Word) (hw : w ∈ ws)
    (hp : w.pos = pos) (lemma : Str) (others : List Str) (hf : w.forms = lemma :: others)
    (hm : form ∈ others) : lemma ∈ morphstr (some ws) form pos :=
  (mem_morphstr_init ws form pos lemma).mpr
    (Or.inr (Or.inl ((mem_exceptionsOf ws pos form lemma).mpr ⟨w, hw, hp, others, hf, hm⟩)))

/-- completeness, third source: every output of a detachment rule that is a lemma of the part of speech -/
theorem C17_complete_rules (ws : List Word) (form : Str) (pos : String) (suffix repl : Str)
    (hr : (suffix, repl) ∈ rulesFor pos) (hs : suffix.isSuffixOf form = true) (hl : suffix.length < form.length)
    (hc : form.take (form.length - suffix.length) ++ repl ∈ lemmas ws pos) :
    form.take (form.length - suffix.length) ++ repl ∈ morphstr (some ws) form pos :=
  (mem_morphstr_init ws form pos _).mpr
    (Or.inr (Or.inr ⟨(suffix, repl), hr, (applyRule_eq_some form (suffix, repl) _).mpr ⟨hs, hl, rfl⟩, hc⟩))

/-- an uninitialised `_morphstr` returns exactly the rule outputs, and a rule applies only when its
suffix is a proper suffix of the word -/
theorem C17_uninit (form : Str) (pos : String) (c : Str) :
    c ∈ morphstr none form pos ↔
      ∃ suffix repl, (suffix, repl) ∈ rulesFor pos ∧ suffix.isSuffixOf form = true ∧
        suffix.length < form.length ∧ c = form.take (form.length - suffix.length) ++ repl := by
  simp only [morphstr, List.mem_filterMap]
  constructor
  · rintro ⟨r, hr, h⟩
    exact ⟨r.1, r.2, hr, (applyRule_eq_some form r c).mp h⟩
  · rintro ⟨s, rp, hr, h⟩
    exact ⟨(s, rp), hr, (applyRule_eq_some form (s, rp) c).mpr h⟩

theorem mem_resultFor {r : List (Option String × List Str)} {k : Option String} {l : Str} :
    l ∈ resultFor r k ↔ ∃ e ∈ r, e.1 = k ∧ l ∈ e.2 := by
  simp only [resultFor, List.mem_flatMap, List.mem_filter, beq_iff_eq, and_assoc]

/-- the parts of speech `__call__` consults -/
def posListOf (pos : Option String) : List String :=
  match pos with
  | none => posOrder
  | some p => if posOrder.contains p then [p] else []

theorem filter_true {α} (l : List α) : l.filter (fun _ => true) = l :=
  List.filter_eq_self.mpr fun _ _ => rfl

theorem call_init_eq (ws : List Word) (form : Str) (pos : Option String) :
    call (some ws) form pos = (posListOf pos).filterMap (fun p =>
      if (morphstr (some ws) form p).isEmpty then none else some (some p, morphstr (some ws) form p)) := by
  simp only [call, posListOf, Option.isSome_some, Option.isNone_some, Bool.false_and, if_true,
    List.nil_append, Bool.false_eq_true, if_false, List.contains_nil, Bool.not_false, filter_true]
  rfl

/-- the dictionary returned by an initialised Morphy maps each consulted
part of speech to exactly its `_morphstr` candidates (and has no other key) -/
theorem C17_call_init (ws : List Word) (form : Str) (pos : Option String) (p : String) (l : Str) :
    l ∈ resultFor (call (some ws) form pos) (some p) ↔ p ∈ posListOf pos ∧ l ∈ morphstr (some ws) form p := by
  rw [mem_resultFor, call_init_eq]
  simp only [List.mem_filterMap, Option.ite_none_left_eq_some, Option.some.injEq]
  constructor
  · rintro ⟨_, ⟨q, hq, _, rfl⟩, hk, hl⟩
    cases hk
    exact ⟨hq, hl⟩
  · rintro ⟨hp, hl⟩
    exact ⟨_, ⟨p, hp, fun he => List.ne_nil_of_mem hl (List.isEmpty_iff.mp he), rfl⟩, rfl, hl⟩

theorem C17_call_init_no_none_key (ws : List Word) (form : Str) (pos : Option String) :
    resultFor (call (some ws) form pos) none = [] := by
  refine List.eq_nil_iff_forall_not_mem.mpr fun l hl => ?_
  obtain ⟨e, he, hk, _⟩ := mem_resultFor.mp hl
  rw [call_init_eq] at he
  obtain ⟨q, _, h⟩ := List.mem_filterMap.mp he
  cases (Option.ite_none_left_eq_some.mp h).2
  cases hk

/-- every lemma an initialised Morphy reports under part of speech `p` is
a lemma of a word of part of speech `p` -/
theorem C17_sound_call (ws : List Word) (form : Str) (pos : Option String) (p : String) (l : Str)
    (h : l ∈ resultFor (call (some ws) form pos) (some p)) : l ∈ lemmas ws p :=
  C17_sound ws form p l ((C17_call_init ws form pos p l).mp h).2

/-- the uninitialised lemmatizer always returns the original form (under the requested key) -/
theorem C17_uninit_original (form : Str) (pos : Option String) :
    form ∈ resultFor (call none form pos) pos :=
  mem_resultFor.mpr ⟨(pos, [form]), List.mem_append_left _ (List.mem_singleton.mpr rfl), rfl,
    List.mem_singleton.mpr rfl⟩

/-- a lemma inventory: the noun church, the verb go with the further form went -/
def demoWords : List Word := [⟨"n", ["church".toList]⟩, ⟨"v", ["go".toList, "went".toList]⟩]

/-- non-vacuity: `churches`/n gives church; `went` without a part of speech gives go under `v`;
uninitialised, `es`/v gives the form itself and `e` (by the rule that drops `s`; the rules for `es`
do not apply, `es` not being a proper suffix of itself) -/
theorem C17_example :
    resultFor (call (some demoWords) "churches".toList (some "n")) (some "n") = ["church".toList] ∧
    resultFor (call (some demoWords) "went".toList none) (some "v") = ["go".toList] ∧
    resultFor (call none "es".toList (some "v")) (some "v") = ["es".toList, "e".toList] := by
  decide +kernel

end WnVerif.Props.C17
