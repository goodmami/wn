/-
The worklist walk `walkGen` is `Worklist.run` on numbered nodes: soundness, completeness, no
duplicates and termination (the fuel `walkFuel` always suffices) for every push discipline that
keeps exactly the old agenda and the new successors.
-/
import WnVerif.Lemmas.Paths
import WnVerif.Lemmas.Worklist
namespace WnVerif.Graph
open WnVerif.Worklist

def GoodPush (push : List Nat → List Nat → List Nat) : Prop :=
  (∀ q new v, v ∈ push q new ↔ v ∈ q ∨ v ∈ new) ∧ (∀ q new, (push q new).length = q.length + new.length)

theorem goodPush_queue : GoodPush pushQueue :=
  ⟨fun _ _ _ => List.mem_append, fun _ _ => List.length_append⟩

theorem goodPush_stack : GoodPush pushStack := by
  refine ⟨fun q new v => ?_, fun q new => ?_⟩
  · rw [pushStack, List.mem_append, List.mem_reverse]
    exact Or.comm
  · rw [pushStack, List.length_append, List.length_reverse]
    exact Nat.add_comm _ _

theorem walkGen_eq_some (push) (g : Adj) : ∀ (f : Nat) (q seen r : List Nat),
    walkGen push g f q seen = some r ↔ run push g id f q seen = ([], r) := by
  intro f q seen r
  fun_induction run push g id f q seen with
  | case1 q acc => cases q <;> simp [walkGen]
  | case2 => simp [walkGen]
  | case3 f x q acc hx ih => rw [← ih]; simp only [walkGen]; rw [if_pos (by simpa using hx)]
  | case4 f x q acc hx ih => rw [← ih]; simp only [walkGen]; rw [if_neg (by simpa using hx)]

theorem walk_complete (push) (hp : GoodPush push) (g : Adj) (f : Nat) (q r : List Nat)
    (h : walkGen push g f q [] = some r) (x : Nat) (hx : x ∈ q) (y : Nat) (hr : Reach g x y) : y ∈ r := by
  have hrun := (walkGen_eq_some push g f q [] r).mp h
  have hF := run_closed push g id hp.1 q f (by rw [hrun])
  rw [hrun, List.map_id] at hF
  induction hr with
  | refl => exact hF x (Or.inl hx)
  | step _ hz ih => exact hF _ (Or.inr ⟨_, ih, hz⟩)

theorem walk_sound (push) (hp : GoodPush push) (g : Adj) : ∀ (f : Nat) (q seen r : List Nat),
    walkGen push g f q seen = some r → ∀ y ∈ r, y ∈ seen ∨ ∃ x ∈ q, Reach g x y := by
  intro f q seen r h
  have := run_sound push g id hp.1 (fun y => ∃ x ∈ q, Reach g x y)
    (fun _ ⟨x, hx, hxy⟩ _ hz => ⟨x, hx, hxy.step hz⟩) f q seen (fun x hx => ⟨x, hx, .refl x⟩)
  rwa [(walkGen_eq_some push g f q seen r).mp h] at this

theorem walk_nodup (push) (g : Adj) : ∀ (f : Nat) (q seen r : List Nat),
    walkGen push g f q seen = some r → seen.Nodup → r.Nodup := by
  intro f q seen r h hn
  have := run_nodup push g id f q seen (by rwa [List.map_id])
  rwa [(walkGen_eq_some push g f q seen r).mp h, List.map_id] at this

theorem walkFuel_suffices (push) (hp : GoodPush push) (g : Adj) (n : Nat) (hr : InRange g n)
    (q0 : List Nat) (hq : ∀ x ∈ q0, x < n) :
    ∃ r, walkGen push g (walkFuel g n q0) q0 [] = some r := by
  have := run_done push g id hp.1 hp.2 (fun x => 1 + (g x).length) (fun _ => Nat.le_add_left _ _)
    (walkFuel g n q0) q0 [] (List.range n)
    (fun y hy => Or.inr (List.mem_range.mpr (hy.elim (hq y) (fun ⟨x, h⟩ => hr x y h)))) (Nat.le_succ _)
  exact ⟨_, (walkGen_eq_some push g _ q0 [] _).mpr (Prod.ext this rfl)⟩

theorem walk_exact (push) (hp : GoodPush push) (g : Adj) (n : Nat) (hr : InRange g n)
    (q0 : List Nat) (hq : ∀ x ∈ q0, x < n) :
    ∃ r, walkGen push g (walkFuel g n q0) q0 [] = some r ∧ r.Nodup ∧ ∀ y, y ∈ r ↔ ∃ x ∈ q0, Reach g x y := by
  obtain ⟨r, hw⟩ := walkFuel_suffices push hp g n hr q0 hq
  exact ⟨r, hw, walk_nodup push g _ _ _ r hw List.nodup_nil, fun y =>
    ⟨fun hy => (walk_sound push hp g _ _ _ r hw y hy).resolve_left List.not_mem_nil,
      fun ⟨x, hx, hxy⟩ => walk_complete push hp g _ q0 r hw x hx y hxy⟩⟩

end WnVerif.Graph
