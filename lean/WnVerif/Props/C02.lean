/-
C02 — WN-LMF load/dump is a lossless round trip in every supported version.

`loadTree r.version (dumpTree r) = .ok r` for every resource `r` in the loader's normal form that its
version can express, proved bottom-up over the tree model of `wn/lmf.py` (`Model/Lmf.lean`).  Normal
form (`NFopt`, `NFmeta` of `Lemmas/LmfAttr.lean` and the `NF…` predicates below, all decidable) is
what the loader itself produces: optional attributes absent rather than empty, flags absent rather
than explicitly default, metadata in canonical order with non-empty values, fields a version
cannot express absent, and in an `External…` element every field its loader does not read at the structure's default.  Character-level escaping (expat / the XML writer) is outside the tree model
and is covered by the correspondence check only.
-/
import WnVerif.Lemmas.LmfAttr
import WnVerif.Lemmas.LmfTree
import WnVerif.Lemmas.Decimal
import WnVerif.Gen.Lmf
namespace WnVerif.Props.C02
open WnVerif.Lmf WnVerif.Doc

/-! ### tie to the tables of `wn/lmf.py` -/

theorem C02_gen_meta_keys : Gen.lmf_meta_dict_keys = metaKeyNames := by decide +kernel

/-- every local name `p.2` in the 1.3 table of namespaced metadata attributes is the dictionary key
that `pickKey` yields for the attribute name the model writes for it.  The namespaced names `p.1`
and the tables of 1.0 to 1.2 are not looked at. -/
theorem C02_gen_ns_attrs : ∀ p ∈ Gen.lmf_ns_attrs_1_3, pickKey (if p.2 == "status" || p.2 == "note" || p.2 == "confidenceScore" then p.2 else "dc:" ++ p.2) = some p.2 := by
  have h : ∀ p ∈ Gen.lmf_ns_attrs_1_3, p.2 ∈ ["status", "note", "confidenceScore"] ∨ p.2 ∈ dcKeys := by decide +kernel
  intro p hp
  split
  · next hc => exact pickKey_unprefixed _ (by simpa [or_assoc] using hc)
  · next hc => exact pickKey_dc _ ((h p hp).resolve_left (by simpa [and_assoc] using hc))

/-- `_META_ELEMS` and `_CDATA_ELEMS` of `wn/lmf.py` are these two lists.  That these are the elements on
which the loaders of `Model/Lmf.lean` call `metaOf` and read `.text` is seen by comparing the two
lists with the model by eye: the model has no table of its own for them. -/
theorem C02_gen_meta_elems : Gen.lmf_meta_elems = ["Count", "Definition", "Example", "ILIDefinition", "LexicalEntry", "Lexicon",
    "LexiconExtension", "Sense", "SenseRelation", "Synset", "SynsetRelation"] ∧
    Gen.lmf_cdata_elems = ["Count", "Definition", "Example", "ILIDefinition", "Pronunciation", "Tag"] := ⟨rfl, rfl⟩

theorem name_elem (n : String) (a : List (String × String)) (t : String) (c : List Xml) : (Xml.elem n a t c).name = n := rfl
theorem children_elem (n : String) (a : List (String × String)) (t : String) (c : List Xml) : (Xml.elem n a t c).children = c := rfl

/-! `simp` with the rewriting lemmas of `Lemmas/LmfAttr.lean` reads every attribute of a dumped element
and extracts its metadata; the normal-form hypotheses discharge their side conditions.  Where a
`rfl` follows, here and below, what is left is the loader's `do` block over `.ok` values, which
computes to the record built from its own fields. -/

theorem loadTag_dumpTag (t : Tag) : loadTag (dumpTag t) = .ok t := by
  simp [loadTag, dumpTag, reqAttr]; rfl

def NFpron (p : Pron) : Prop := NFopt p.variety ∧ NFopt p.notat ∧ NFopt p.audio ∧ p.phonemic ≠ some true

theorem loadPron_dumpPron (p : Pron) (h : NFpron p) : loadPron (dumpPron p) = p := by
  obtain ⟨text, variety, notat, phonemic, audio⟩ := p
  obtain ⟨h1, h2, h3, h4⟩ := h
  simp [loadPron, dumpPron, h1, h2, h3, h4, Xml.text]

theorem loadRel_dumpRel (name : String) (r : Relation) (h : NFmeta r.md) : loadRel (dumpRel name r) = .ok r := by
  simp [loadRel, dumpRel, reqAttr, h]; rfl

def NFexample (e : Example) : Prop := NFopt e.language ∧ NFmeta e.md

theorem loadExample_dumpExample (e : Example) (h : NFexample e) : loadExample (dumpExample e) = e := by
  simp [loadExample, dumpExample, h.1, h.2, Xml.text]

def NFcount (c : Count) : Prop := NFmeta c.md

theorem loadCount_dumpCount (c : Count) (h : NFcount c) : loadCount (dumpCount c) = .ok c := by
  -- the rewriting lemmas of `Lemmas/LmfAttr.lean` ask for `NFmeta _` / `NFopt _` as such: `NFcount c` is that only up to unfolding
  have h : NFmeta c.md := h
  simp [loadCount, dumpCount, Xml.text, readInt_showInt, h]

def NFdefinition (d : Definition) : Prop := NFopt d.language ∧ NFopt d.sourceSense ∧ NFmeta d.md

theorem loadDefinition_dumpDefinition (d : Definition) (h : NFdefinition d) : loadDefinition (dumpDefinition d) = d := by
  simp [loadDefinition, dumpDefinition, h.1, h.2.1, h.2.2, Xml.text]

def NFdep (d : Dep) : Prop := NFopt d.url

theorem loadDep_dumpDep (name : String) (d : Dep) (h : NFdep d) : loadDep (dumpDep name d) = .ok d := by
  have h : NFopt d.url := h
  simp [loadDep, dumpDep, reqAttr, h]; rfl

theorem pronTagKids_filter (v : String) (ps : List Pron) (ts : List Tag) :
    (pronTagKids v ps ts).filter (fun c => ["Tag"].contains c.name) = ts.map dumpTag ∧
    ((atLeast11 v = false → ps = []) → (pronTagKids v ps ts).filter (fun c => ["Pronunciation"].contains c.name) = ps.map dumpPron) ∧
    (pronTagKids v ps ts).filter (fun c => svNames.contains c.name) = [] := by
  -- in two steps, as explained in `Lemmas/LmfTree.lean` ("the children a loader picks by name")
  simp only [pronTagKids, List.filter_append, filter_ite, List.filter_nil, List.filter_map, Function.comp_def, dumpPron, dumpTag, Xml.name]
  simp [filter_const, svNames]

theorem load_pronTagKids {v : String} {x : Xml} {ps : List Pron} {ts : List Tag} (hc : x.children = pronTagKids v ps ts)
    (h1 : ∀ p ∈ ps, NFpron p) (h2 : atLeast11 v = false → ps = []) :
    (kids x ["Tag"]).mapM loadTag = .ok ts ∧ (kids x ["Pronunciation"]).map loadPron = ps := by
  obtain ⟨kt, kp, _⟩ := pronTagKids_filter v ps ts
  rw [kids, kids, hc, kt, kp h2]
  exact ⟨mapM_map_ok dumpTag loadTag ts (fun t _ => loadTag_dumpTag t),
    map_map_id dumpPron loadPron ps (fun p hp => loadPron_dumpPron p (h1 p hp))⟩

def NFlemma (v : String) (l : Lemma) : Prop :=
  (∀ p ∈ l.prons, NFpron p) ∧ (atLeast11 v = false → l.prons = []) ∧
  (if l.external then l.form = "" ∧ l.pos = "" ∧ l.script = none else NFopt l.script)

theorem loadLemma_dumpLemma (v : String) (l : Lemma) (h : NFlemma v l) : loadLemma (dumpLemma v l) = .ok l := by
  obtain ⟨h1, h2, h3⟩ := h
  obtain ⟨kt, kp⟩ := load_pronTagKids (dumpLemma_children v l) h1 h2
  unfold loadLemma
  rw [kt, kp, dumpLemma_name, ext_name _ "Lemma" "ExternalLemma" (by simp)]
  obtain ⟨ext, form, pos, script, prons, tags⟩ := l
  dsimp only at h3
  cases ext with
  | true =>
    obtain ⟨rfl, rfl, rfl⟩ := h3
    rfl
  | false =>
    have h3 : NFopt script := h3
    simp [dumpLemma, reqAttr, h3]
    rfl

def NFform (v : String) (f : Form) : Prop :=
  (∀ p ∈ f.prons, NFpron p) ∧ (atLeast11 v = false → f.prons = [] ∧ f.id = none) ∧
  (if f.external then f.form = "" ∧ f.script = none ∧ truthy f.id = true else NFopt f.script ∧ NFopt f.id)

theorem loadForm_dumpForm (v : String) (f : Form) (h : NFform v f) : loadForm (dumpForm v f) = .ok f := by
  obtain ⟨h1, h2, h3⟩ := h
  obtain ⟨kt, kp⟩ := load_pronTagKids (dumpForm_children v f) h1 (fun hv => (h2 hv).1)
  unfold loadForm
  rw [kt, kp, dumpForm_name, ext_name _ "Form" "ExternalForm" (by simp)]
  obtain ⟨ext, id, form, script, prons, tags⟩ := f
  dsimp only at h2 h3
  -- the `id` attribute is written from 1.1 on, and a 1.0 form has none
  rw [dumpForm, gated (atLeast11 v) (optAttr "id" id) (fun hv => by rw [(h2 hv).2]; rfl)]
  cases ext with
  | true =>
    obtain ⟨rfl, rfl, ht⟩ := h3
    have hn : NFopt id := fun e => by rw [e] at ht; cases ht
    simp [hn, ht]
    rfl
  | false =>
    obtain ⟨hs, hn⟩ := h3
    simp [reqAttr, hs, hn]
    rfl

/-- ids in a space-separated attribute (`subcat`, `members`, `senses`) -/
def NFidList (l : List String) : Prop := ∀ s ∈ l, s.toList ≠ [] ∧ ' ' ∉ s.toList

theorem splitCharsAux_word (w : List Char) (hw : ' ' ∉ w) : ∀ (cur rest : List Char),
    splitCharsAux cur (w ++ rest) = splitCharsAux (w.reverse ++ cur) rest := by
  induction w with
  | nil => intro cur rest; rfl
  | cons c t ih =>
    intro cur rest
    have hc : (c == ' ') = false := by
      have : c ≠ ' ' := fun e => hw (by rw [e]; exact List.mem_cons_self)
      simpa using this
    simp only [List.cons_append, splitCharsAux, hc, Bool.false_eq_true, if_false]
    rw [ih (fun h => hw (List.mem_cons_of_mem _ h))]
    simp

theorem splitChars_intercalate : ∀ (ws : List (List Char)), ws ≠ [] → (∀ w ∈ ws, ' ' ∉ w) →
    splitCharsAux [] ([' '].intercalate ws) = ws := by
  intro ws
  induction ws with
  | nil => intro h; exact absurd rfl h
  | cons w t ih =>
    intro _ hs
    cases t with
    | nil =>
      have := splitCharsAux_word w (hs w List.mem_cons_self) [] []
      simp only [List.append_nil] at this
      simp [List.intercalate, List.intersperse, this, splitCharsAux]
    | cons w' t' =>
      have e : [' '].intercalate (w :: w' :: t') = w ++ (' ' :: [' '].intercalate (w' :: t')) := by
        simp [List.intercalate, List.intersperse]
      rw [e, splitCharsAux_word w (hs w List.mem_cons_self)]
      simp only [splitCharsAux, beq_self_eq_true, if_true, List.append_nil, List.reverse_reverse]
      rw [ih (by simp) (fun x hx => hs x (List.mem_cons_of_mem _ hx))]

/-- `' '.join(xs).split(' ')` gives `xs` back -/
theorem splitSp_joinSp (l : List String) (h : NFidList l) : splitSp (joinSp l) = l := by
  by_cases hl : l = []
  · rw [hl]; rfl
  have hsp : ∀ w ∈ l.map String.toList, ' ' ∉ w := fun w hw => by
    obtain ⟨s, hs, rfl⟩ := List.mem_map.mp hw; exact (h s hs).2
  have hemp : ∀ w ∈ l.map String.toList, (!w.isEmpty) = true := fun w hw => by
    obtain ⟨s, hs, rfl⟩ := List.mem_map.mp hw; simpa using (h s hs).1
  rw [splitSp, joinSp, String.toList_intercalate, show " ".toList = [' '] from rfl,
    splitChars_intercalate _ (fun e => hl (List.map_eq_nil_iff.mp e)) hsp, List.filter_eq_self.mpr hemp]
  exact map_map_id String.toList String.ofList l (fun _ _ => String.ofList_toList)

def NFsense (v : String) (s : Sense) : Prop :=
  (∀ r ∈ s.relations, NFmeta r.md) ∧ (∀ e ∈ s.examples, NFexample e) ∧ (∀ c ∈ s.counts, NFcount c) ∧
  (if s.external then s.synset = "" ∧ s.md = none ∧ s.lexicalized = none ∧ s.adjposition = none ∧ s.subcat = []
   else NFmeta s.md ∧ s.lexicalized ≠ some true ∧ NFopt s.adjposition ∧ NFidList s.subcat ∧ (atLeast11 v = false → s.subcat = []))

theorem kids_dumpSense (v : String) (s : Sense) :
    kids (dumpSense v s) ["SenseRelation"] = s.relations.map (dumpRel "SenseRelation") ∧
    kids (dumpSense v s) ["Example"] = s.examples.map dumpExample ∧ kids (dumpSense v s) ["Count"] = s.counts.map dumpCount ∧
    kids (dumpSense v s) svNames = [] := by
  simp only [kids, dumpSense_children, List.filter_append, List.filter_map, Function.comp_def, dumpRel, dumpExample, dumpCount, Xml.name]
  simp [filter_const, svNames]

theorem rels_roundtrip (name : String) (rs : List Relation) (h : ∀ r ∈ rs, NFmeta r.md) : (rs.map (dumpRel name)).mapM loadRel = .ok rs :=
  mapM_map_ok (dumpRel name) loadRel rs (fun r hr => loadRel_dumpRel name r (h r hr))
theorem examples_roundtrip (es : List Example) (h : ∀ e ∈ es, NFexample e) : (es.map dumpExample).map loadExample = es :=
  map_map_id dumpExample loadExample es (fun e he => loadExample_dumpExample e (h e he))

theorem loadSense_dumpSense (v : String) (s : Sense) (h : NFsense v s) : loadSense (dumpSense v s) = .ok s := by
  obtain ⟨h1, h2, h3, h4⟩ := h
  obtain ⟨k1, k2, k3, _⟩ := kids_dumpSense v s
  unfold loadSense
  rw [k1, k2, k3, rels_roundtrip _ _ h1, examples_roundtrip _ h2,
    mapM_map_ok dumpCount loadCount _ (fun c hc => loadCount_dumpCount c (h3 c hc)), dumpSense_name,
    ext_name _ "Sense" "ExternalSense" (by simp)]
  obtain ⟨ext, id, synset, md, relations, examples, counts, lexicalized, adjposition, subcat⟩ := s
  dsimp only at h4
  cases ext with
  | true =>
    obtain ⟨rfl, rfl, rfl, rfl, rfl⟩ := h4
    simp [dumpSense, reqAttr]
    rfl
  | false =>
    obtain ⟨hm, hl, ha, hs, hv⟩ := h4
    simp [dumpSense, reqAttr, hm, hl, ha, gate_and _ (!subcat.isEmpty) (fun h => by rw [hv h]; rfl)]
    -- what is left is `subcat`, written when the list is not empty
    by_cases he : subcat = []
    · rw [he]; rfl
    · simp [he, splitSp_joinSp subcat hs]; rfl

def NFframe (v : String) (f : Frame) : Prop :=
  if atLeast11 v then NFopt f.id ∧ f.senses = [] else f.id = none ∧ NFidList f.senses

theorem loadFrame_dumpFrame (v : String) (f : Frame) (h : NFframe v f) : loadFrame (dumpFrame v f) = .ok f := by
  obtain ⟨id, frame, senses⟩ := f
  unfold NFframe at h
  cases hv : atLeast11 v with
  | true =>
    rw [hv, if_pos rfl] at h
    obtain ⟨hid, rfl⟩ := h
    have hid : NFopt id := hid
    simp [loadFrame, dumpFrame, reqAttr, hv, optAttr_truthy, hid]; rfl
  | false =>
    rw [hv, if_neg Bool.false_ne_true] at h
    obtain ⟨rfl, hs⟩ := h
    simp [loadFrame, dumpFrame, reqAttr, hv]
    by_cases he : senses = []
    · rw [he]; rfl
    · simp [he, splitSp_joinSp senses hs]; rfl

def NFentry (v : String) (extension : Bool) (e : Entry) : Prop :=
  (∀ l, e.lemma = some l → NFlemma v l) ∧ (∀ f ∈ e.forms, NFform v f) ∧ (∀ s ∈ e.senses, NFsense v s) ∧
  (∀ f ∈ e.frames, NFframe v f) ∧
  (if e.external then extension = true ∧ e.md = none ∧ e.frames = []
   else e.lemma.isSome = true ∧ NFmeta e.md ∧ (atLeast11 v = true → e.frames = [])) ∧
  (extension = false → e.forms.any (·.external) = false ∧ e.senses.any (·.external) = false ∧
    ((e.lemma.map (·.external)).getD false) = false)

theorem kids_dumpEntry (v : String) (e : Entry) :
    kids (dumpEntry v e) ["Lemma", "ExternalLemma"] = e.lemma.toList.map (dumpLemma v) ∧
    kids (dumpEntry v e) ["Form", "ExternalForm"] = e.forms.map (dumpForm v) ∧
    kids (dumpEntry v e) ["Sense", "ExternalSense"] = e.senses.map (dumpSense v) ∧
    kids (dumpEntry v e) ["SyntacticBehaviour"] = (if e.external || atLeast11 v then [] else e.frames.map (dumpFrame v)) ∧
    kids (dumpEntry v e) svNames = e.lemma.toList.map (dumpLemma v) := by
  simp only [kids, dumpEntry_children, List.filter_append, filter_ite, List.filter_nil, List.filter_map, Function.comp_def,
    dumpLemma_name, dumpForm_name, dumpSense_name, dumpFrame_name, contains_ite]
  simp [filter_const, svNames]

theorem frames_roundtrip (v : String) (fs : List Frame) (h : ∀ f ∈ fs, NFframe v f) : (fs.map (dumpFrame v)).mapM loadFrame = .ok fs :=
  mapM_map_ok (dumpFrame v) loadFrame fs (fun f hf => loadFrame_dumpFrame v f (h f hf))

theorem loadEntry_dumpEntry (v : String) (extension : Bool) (e : Entry) (h : NFentry v extension e) :
    loadEntry extension (dumpEntry v e) = .ok e := by
  obtain ⟨h1, h2, h3, h4, h5, h6⟩ := h
  obtain ⟨k1, k2, k3, k4, _⟩ := kids_dumpEntry v e
  have hid : reqAttr (dumpEntry v e) "id" = .ok e.id := by
    unfold dumpEntry; split <;> simp [reqAttr]
  unfold loadEntry
  rw [k1, k2, k3, k4, mapM_map_ok (dumpForm v) loadForm _ (fun f hf => loadForm_dumpForm v f (h2 f hf)),
    mapM_map_ok (dumpSense v) loadSense _ (fun s hs => loadSense_dumpSense v s (h3 s hs)), dumpEntry_name,
    ext_name _ "LexicalEntry" "ExternalLexicalEntry" (by simp), hid]
  obtain ⟨ext, id, md, lemma, forms, senses, frames⟩ := e
  dsimp only at h1 h4 h5 h6 ⊢
  cases ext with
  | true =>
    obtain ⟨rfl, rfl, rfl⟩ := h5
    cases lemma with
    | none => rfl
    | some l =>
      simp only [Option.toList, List.map, loadLemma_dumpLemma v l (h1 l rfl)]; rfl
  | false =>
    obtain ⟨hl, hm, hfr⟩ := h5
    cases lemma with
    | none => cases hl
    | some l =>
      have hmd : metaOf (dumpEntry v ⟨false, id, md, some l, forms, senses, frames⟩) = md := by simp [dumpEntry, hm]
      have hframes : (if (false || atLeast11 v) = true then [] else frames.map (dumpFrame v)).mapM loadFrame = .ok frames := by
        cases hv : atLeast11 v with
        | true => rw [hfr hv]; rfl
        | false => exact frames_roundtrip v frames h4
      -- first run the loader up to its last check, then discharge that check
      simp only [hmd, hframes, Option.toList, List.map, loadLemma_dumpLemma v l (h1 l rfl), bind, Except.bind, Except.map]
      cases extension with
      | true => rfl
      | false =>
        obtain ⟨a, b, c⟩ := h6 rfl
        have c : l.external = false := c
        simp [a, b, c]; rfl

def NFsynset (v : String) (extension : Bool) (s : Synset) : Prop :=
  (∀ d ∈ s.definitions, NFdefinition d) ∧ (∀ r ∈ s.relations, NFmeta r.md) ∧ (∀ e ∈ s.examples, NFexample e) ∧
  (if s.external then extension = true ∧ s.ili = "" ∧ s.pos = none ∧ s.md = none ∧ s.iliDef = none ∧ s.lexicalized = none ∧
      s.members = [] ∧ s.lexfile = none
   else NFopt s.pos ∧ NFmeta s.md ∧ s.lexicalized ≠ some true ∧ (∀ d, s.iliDef = some d → NFmeta d.md) ∧
     NFidList s.members ∧ NFopt s.lexfile ∧ (atLeast11 v = false → s.members = [] ∧ s.lexfile = none))

theorem kids_dumpSynset (v : String) (s : Synset) :
    kids (dumpSynset v s) ["Definition"] = s.definitions.map dumpDefinition ∧
    kids (dumpSynset v s) ["SynsetRelation"] = s.relations.map (dumpRel "SynsetRelation") ∧
    kids (dumpSynset v s) ["Example"] = s.examples.map dumpExample ∧
    kids (dumpSynset v s) ["ILIDefinition"] = (if s.external then [] else s.iliDef.toList.map dumpIliDef) ∧
    kids (dumpSynset v s) svNames = if s.external then [] else s.iliDef.toList.map dumpIliDef := by
  simp only [kids, dumpSynset_children, List.filter_append, filter_ite, List.filter_nil, List.filter_map, Function.comp_def,
    dumpDefinition, dumpIliDef, dumpRel, dumpExample, Xml.name]
  simp [filter_const, svNames]

theorem loadSynset_dumpSynset (v : String) (extension : Bool) (s : Synset) (h : NFsynset v extension s) :
    loadSynset extension (dumpSynset v s) = .ok s := by
  obtain ⟨h1, h2, h3, h4⟩ := h
  obtain ⟨k1, k2, k3, k4, _⟩ := kids_dumpSynset v s
  unfold loadSynset
  rw [k1, k2, k3, k4, map_map_id dumpDefinition loadDefinition _ (fun d hd => loadDefinition_dumpDefinition d (h1 d hd)),
    rels_roundtrip _ _ h2, examples_roundtrip _ h3, dumpSynset_name,
    ext_name _ "Synset" "ExternalSynset" (by simp)]
  obtain ⟨ext, id, ili, pos, md, iliDef, definitions, relations, examples, lexicalized, members, lexfile⟩ := s
  dsimp only at h4 ⊢
  cases ext with
  | true =>
    obtain ⟨rfl, rfl, rfl, rfl, rfl, rfl, rfl, rfl⟩ := h4
    simp [dumpSynset, reqAttr]
    rfl
  | false =>
    obtain ⟨hp, hm, hl, hd, hmem, hlf, hv⟩ := h4
    have hili : (iliDef.toList.map dumpIliDef).head?.map (fun d => ({ text := d.text, md := metaOf d } : IliDef)) = iliDef := by
      cases iliDef with
      | none => rfl
      | some d => simp [dumpIliDef, Xml.text, hd d rfl]
    simp only [Bool.false_eq_true, ↓reduceIte, hili]
    rw [dumpSynset, gated (atLeast11 v) _ ?gate]
    case gate => intro h; obtain ⟨rfl, rfl⟩ := hv h; rfl
    simp [reqAttr, hp, hm, hl, hlf]
    -- what is left is `members`, written when the list is not empty
    by_cases he : members = []
    · rw [he]; rfl
    · simp [he, splitSp_joinSp members hmem]; rfl

def NFlexicon (v : String) (l : Lexicon) : Prop :=
  NFopt l.url ∧ NFopt l.citation ∧ NFopt l.logo ∧ NFmeta l.md ∧ (∀ d, l.ext = some d → NFdep d) ∧
  (∀ d ∈ l.requires, NFdep d) ∧ (∀ e ∈ l.entries, NFentry v l.ext.isSome e) ∧ (∀ s ∈ l.synsets, NFsynset v l.ext.isSome s) ∧
  (∀ f ∈ l.frames, NFframe v f) ∧
  (atLeast11 v = false → l.ext = none ∧ l.requires = [] ∧ l.logo = none ∧ l.frames = [])

theorem kids_dumpLexicon (v : String) (l : Lexicon) :
    kids (dumpLexicon v l) ["Extends"] = (if atLeast11 v then l.ext.toList.map (dumpDep "Extends") else []) ∧
    kids (dumpLexicon v l) ["Requires"] = (if atLeast11 v then l.requires.map (dumpDep "Requires") else []) ∧
    kids (dumpLexicon v l) ["LexicalEntry", "ExternalLexicalEntry"] = l.entries.map (dumpEntry v) ∧
    kids (dumpLexicon v l) ["Synset", "ExternalSynset"] = l.synsets.map (dumpSynset v) ∧
    kids (dumpLexicon v l) ["SyntacticBehaviour"] = (if atLeast11 v then l.frames.map (dumpFrame v) else []) ∧
    kids (dumpLexicon v l) svNames = if atLeast11 v then l.ext.toList.map (dumpDep "Extends") else [] := by
  simp only [kids, dumpLexicon_children, List.filter_append, filter_ite, List.filter_nil, List.filter_map, Function.comp_def,
    dumpDep_name, dumpEntry_name, dumpSynset_name, dumpFrame_name, contains_ite]
  simp [filter_const, svNames]

theorem entries_roundtrip (v : String) (extension : Bool) (es : List Entry) (h : ∀ e ∈ es, NFentry v extension e) :
    (es.map (dumpEntry v)).mapM (loadEntry extension) = .ok es :=
  mapM_map_ok (dumpEntry v) (loadEntry extension) es (fun e he => loadEntry_dumpEntry v extension e (h e he))
theorem synsets_roundtrip (v : String) (extension : Bool) (ss : List Synset) (h : ∀ s ∈ ss, NFsynset v extension s) :
    (ss.map (dumpSynset v)).mapM (loadSynset extension) = .ok ss :=
  mapM_map_ok (dumpSynset v) (loadSynset extension) ss (fun s hs => loadSynset_dumpSynset v extension s (h s hs))

theorem dumpLexicon_attrs (v : String) (l : Lexicon) (h : NFlexicon v l) :
    attr (dumpLexicon v l) "id" = some l.id ∧ attr (dumpLexicon v l) "version" = some l.version ∧
    attr (dumpLexicon v l) "label" = some l.label ∧ attr (dumpLexicon v l) "language" = some l.language ∧
    attr (dumpLexicon v l) "email" = some l.email ∧ attr (dumpLexicon v l) "license" = some l.license ∧
    attr (dumpLexicon v l) "url" = l.url ∧ attr (dumpLexicon v l) "citation" = l.citation ∧
    attr (dumpLexicon v l) "logo" = l.logo ∧ metaOf (dumpLexicon v l) = l.md := by
  obtain ⟨hu, hc, hlg, hm, _, _, _, _, _, hv⟩ := h
  rw [dumpLexicon, gated (atLeast11 v) (optAttr "logo" l.logo) (fun h => by rw [(hv h).2.2.1]; rfl)]
  simp [hu, hc, hlg, hm]

theorem loadLexicon_dumpLexicon (v : String) (l : Lexicon) (h : NFlexicon v l) : loadLexicon (dumpLexicon v l) = .ok l := by
  have ha := dumpLexicon_attrs v l h
  obtain ⟨_, _, _, _, hx, hr, he, hs, hf, hv⟩ := h
  obtain ⟨k1, k2, k3, k4, k5, _⟩ := kids_dumpLexicon v l
  -- a 1.0 lexicon has none of the children that 1.0 cannot express
  rw [gated _ _ (fun h => by rw [(hv h).1]; rfl)] at k1
  rw [gated _ _ (fun h => by rw [(hv h).2.1]; rfl)] at k2
  rw [gated _ _ (fun h => by rw [(hv h).2.2.2]; rfl)] at k5
  unfold loadLexicon
  rw [k1, k2, k3, k4, k5, mapM_map_ok _ loadDep _ (fun d hd => loadDep_dumpDep "Requires" d (hr d hd)), frames_roundtrip v _ hf]
  simp only [reqAttr, ha]
  obtain ⟨id, version, label, language, email, license, url, citation, logo, md, ext, requires, entries, synsets, frames⟩ := l
  cases ext with
  | none =>
    simp only [Option.toList, List.map, bind, Except.bind, pure, Except.pure, entries_roundtrip v _ _ he, synsets_roundtrip v _ _ hs]
  | some d =>
    simp only [Option.toList, List.map, loadDep_dumpDep "Extends" d (hx d rfl), Except.map, bind, Except.bind, pure, Except.pure,
      entries_roundtrip v _ _ he, synsets_roundtrip v _ _ hs]

/-! ### every dumped tree passes the loader's structural checks

All that is needed of the normal form is that a 1.0 document has no `External…` element. -/

theorem dumpRel_fits (v n : String) (r : Relation) (h : n ∈ elems10) : Fits v (dumpRel n r) := fits_leaf (valid_10 h)
theorem dumpExample_fits (v : String) (e : Example) : Fits v (dumpExample e) := fits_leaf (valid_10 (by simp [elems10]))
theorem dumpFrame_fits (v : String) (f : Frame) : Fits v (dumpFrame v f) := fits_leaf (valid_10 (by simp [elems10]))

theorem fits_of_pronTagKids {v : String} {x : Xml} {ps : List Pron} {ts : List Tag} (hc : x.children = pronTagKids v ps ts)
    (hn : x.name ∈ validElems v) : Fits v x := by
  refine ⟨hn, treeOk_of_fits ?_ (by rw [kids, hc, (pronTagKids_filter v ps ts).2.2]; exact Nat.zero_le 1)⟩
  rw [hc, pronTagKids, List.forall_mem_append, List.forall_mem_map]
  refine ⟨forall_mem_ite (fun hv => ?_) (fun _ _ h => nomatch h), fun _ _ => fits_leaf (valid_10 (by simp [elems10]))⟩
  rw [List.forall_mem_map]
  exact fun _ _ => fits_leaf (valid_11 hv (by simp [elems11]))

theorem dumpLemma_fits (v : String) (l : Lemma) (h : atLeast11 v = false → l.external = false) : Fits v (dumpLemma v l) :=
  fits_of_pronTagKids (dumpLemma_children v l)
    (by rw [dumpLemma_name]; exact valid_ext (by simp [elems10]) (List.mem_append_right _ (by simp)) h)

theorem dumpForm_fits (v : String) (f : Form) (h : atLeast11 v = false → f.external = false) : Fits v (dumpForm v f) :=
  fits_of_pronTagKids (dumpForm_children v f)
    (by rw [dumpForm_name]; exact valid_ext (by simp [elems10]) (List.mem_append_right _ (by simp)) h)

theorem dumpSense_fits (v : String) (s : Sense) (h : atLeast11 v = false → s.external = false) : Fits v (dumpSense v s) where
  valid := by rw [dumpSense_name]; exact valid_ext (by simp [elems10]) (List.mem_append_right _ (by simp)) h
  ok := by
    refine treeOk_of_fits ?_ (by rw [(kids_dumpSense v s).2.2.2]; exact Nat.zero_le 1)
    simp only [dumpSense_children, List.forall_mem_append, List.forall_mem_map]
    exact ⟨⟨fun r _ => dumpRel_fits v _ r (by simp [elems10]), fun e _ => dumpExample_fits v e⟩,
      fun _ _ => fits_leaf (valid_10 (by simp [elems10]))⟩

theorem NFentry.external_false {v : String} {extension : Bool} {e : Entry} (h : NFentry v extension e) (hx : extension = false) :
    e.external = false ∧ (∀ l, e.lemma = some l → l.external = false) ∧
      (∀ f ∈ e.forms, f.external = false) ∧ (∀ s ∈ e.senses, s.external = false) := by
  obtain ⟨_, _, _, _, h5, h6⟩ := h
  obtain ⟨a, b, c⟩ := h6 hx
  refine ⟨?_, fun l hl => by rw [hl] at c; exact c, fun f hf => by simpa using List.any_eq_false.mp a f hf,
    fun s hs => by simpa using List.any_eq_false.mp b s hs⟩
  cases he : e.external with
  | false => rfl
  | true => rw [he, if_pos rfl, hx] at h5; cases h5.1

theorem dumpEntry_fits (v : String) (e : Entry)
    (hext : atLeast11 v = false → e.external = false ∧ (∀ l, e.lemma = some l → l.external = false) ∧
      (∀ f ∈ e.forms, f.external = false) ∧ (∀ s ∈ e.senses, s.external = false)) :
    Fits v (dumpEntry v e) := by
  refine ⟨?_, treeOk_of_fits ?_ (by rw [(kids_dumpEntry v e).2.2.2.2]; exact length_toList_map_le)⟩
  · rw [dumpEntry_name]; exact valid_ext (by simp [elems10]) (List.mem_append_right _ (by simp)) (fun hv => (hext hv).1)
  · simp only [dumpEntry_children, List.forall_mem_append, List.forall_mem_map]
    exact ⟨⟨⟨fun l hl => dumpLemma_fits v l (fun hv => (hext hv).2.1 l (Option.mem_toList.mp hl)),
      fun f hf => dumpForm_fits v f (fun hv => (hext hv).2.2.1 f hf)⟩,
      fun s hs => dumpSense_fits v s (fun hv => (hext hv).2.2.2 s hs)⟩,
      forall_mem_ite (fun _ _ h => nomatch h) (fun _ => List.forall_mem_map.mpr fun f _ => dumpFrame_fits v f)⟩

theorem NFsynset.external_false {v : String} {extension : Bool} {s : Synset} (h : NFsynset v extension s) (hx : extension = false) :
    s.external = false := by
  cases he : s.external with
  | false => rfl
  | true =>
    have h4 := h.2.2.2
    rw [he, if_pos rfl, hx] at h4; cases h4.1

theorem dumpSynset_fits (v : String) (s : Synset) (hext : atLeast11 v = false → s.external = false) :
    Fits v (dumpSynset v s) := by
  refine ⟨?_, treeOk_of_fits ?_ ?_⟩
  · rw [dumpSynset_name]; exact valid_ext (by simp [elems10]) (List.mem_append_right _ (by simp)) hext
  · simp only [dumpSynset_children, List.forall_mem_append, List.forall_mem_map]
    exact ⟨⟨⟨fun _ _ => fits_leaf (valid_10 (by simp [elems10])),
      forall_mem_ite (fun _ _ h => nomatch h)
        (fun _ => List.forall_mem_map.mpr fun _ _ => fits_leaf (valid_10 (by simp [elems10])))⟩,
      fun r _ => dumpRel_fits v _ r (by simp [elems10])⟩, fun e _ => dumpExample_fits v e⟩
  · rw [(kids_dumpSynset v s).2.2.2.2]
    split
    · exact Nat.zero_le 1
    · exact length_toList_map_le

theorem dumpLexicon_fits (v : String) (l : Lexicon) (h : NFlexicon v l) : Fits v (dumpLexicon v l) := by
  obtain ⟨_, _, _, _, _, _, he, hs, _, hv⟩ := h
  have hx : atLeast11 v = false → l.ext.isSome = false := fun h => by rw [(hv h).1]; rfl
  refine ⟨?_, treeOk_of_fits ?_ ?_⟩
  · rw [dumpLexicon_name]; exact valid_ext (by simp [elems10]) (List.mem_append_right _ (by simp)) hx
  · simp only [dumpLexicon_children, List.forall_mem_append, List.forall_mem_map]
    refine ⟨⟨⟨forall_mem_ite (fun hv' => ?_) (fun _ _ h => nomatch h), fun e hm => dumpEntry_fits v e fun hv => (he e hm).external_false (hx hv)⟩,
      fun s hm => dumpSynset_fits v s fun hv => (hs s hm).external_false (hx hv)⟩,
      forall_mem_ite (fun _ => List.forall_mem_map.mpr fun f _ => dumpFrame_fits v f) (fun _ _ h => nomatch h)⟩
    simp only [List.forall_mem_append, List.forall_mem_map]
    exact ⟨fun _ _ => fits_leaf (valid_11 hv' (by simp [elems11])),
      fun _ _ => fits_leaf (valid_11 hv' (by simp [elems11]))⟩
  · rw [(kids_dumpLexicon v l).2.2.2.2.2]
    split
    · exact length_toList_map_le
    · exact Nat.zero_le 1

def NFresource (r : Resource) : Prop := ∀ l ∈ r.lexicons, NFlexicon r.version l

theorem kids_dumpTree (r : Resource) :
    kids (dumpTree r) ["Lexicon", "LexiconExtension"] = r.lexicons.map (dumpLexicon r.version) ∧ kids (dumpTree r) svNames = [] := by
  simp only [kids, dumpTree, Xml.children, List.filter_map, Function.comp_def, dumpLexicon_name, contains_ite]
  simp [filter_const, svNames]

theorem dumpTree_fits (r : Resource) (h : NFresource r) : Fits r.version (dumpTree r) := by
  refine ⟨valid_10 (by simp [elems10, dumpTree, Xml.name]), treeOk_of_fits ?_ (by rw [(kids_dumpTree r).2]; exact Nat.zero_le 1)⟩
  rw [dumpTree, children_elem, List.forall_mem_map]
  exact fun l hl => dumpLexicon_fits _ l (h l hl)

/-- the check as `loadTree` runs it, on a nameless parent of the root -/
theorem dumpTree_ok (r : Resource) (h : NFresource r) : treeOk r.version (.elem "" [] "" [dumpTree r]) = true :=
  treeOk_of_fits (List.forall_mem_singleton.mpr (dumpTree_fits r h)) (List.length_filter_le _ _)

/-- `load` of what `dump` wrote gives back the resource, at the level of trees: for every LMF version
and every resource in normal form, with no bound on the length of any list in it -/
theorem C02_load_dump (r : Resource) (h : NFresource r) : loadTree r.version (dumpTree r) = .ok r := by
  unfold loadTree
  rw [dumpTree_ok r h, (kids_dumpTree r).1, mapM_map_ok (dumpLexicon r.version) loadLexicon r.lexicons (fun l hl => loadLexicon_dumpLexicon _ l (h l hl)),
    show ((dumpTree r).name != "LexicalResource") = false from bne_self_eq_false _]
  rfl

/-- consequently dump ∘ load ∘ dump = dump on trees; bytes are not modelled -/
theorem C02_fixed_point (r : Resource) (h : NFresource r) :
    (loadTree r.version (dumpTree r)).map dumpTree = .ok (dumpTree r) := by
  rw [C02_load_dump r h]; rfl

instance {α} (o : Option α) (P : α → Prop) [∀ a, Decidable (P a)] : Decidable (∀ a, o = some a → P a) :=
  match o with
  | none => isTrue (fun _ h => nomatch h)
  | some a => decidable_of_iff (P a) ⟨fun h _ e => Option.some.inj e ▸ h, fun h => h a rfl⟩

instance (o) : Decidable (NFopt o) := by unfold NFopt; infer_instance
instance : (m : Option Meta) → Decidable (NFmeta m)
  | none => isTrue trivial
  | some kv => inferInstanceAs (Decidable (kv ≠ [] ∧ canonMeta kv = kv))
instance (l) : Decidable (NFidList l) := by unfold NFidList; infer_instance
instance (p) : Decidable (NFpron p) := by unfold NFpron; infer_instance
instance (e) : Decidable (NFexample e) := by unfold NFexample; infer_instance
instance (c) : Decidable (NFcount c) := by unfold NFcount; infer_instance
instance (d) : Decidable (NFdefinition d) := by unfold NFdefinition; infer_instance
instance (d) : Decidable (NFdep d) := by unfold NFdep; infer_instance
instance (v l) : Decidable (NFlemma v l) := by unfold NFlemma; infer_instance
instance (v f) : Decidable (NFform v f) := by unfold NFform; infer_instance
instance (v s) : Decidable (NFsense v s) := by unfold NFsense; infer_instance
instance (v f) : Decidable (NFframe v f) := by unfold NFframe; infer_instance
instance (v x e) : Decidable (NFentry v x e) := by unfold NFentry; infer_instance
instance (v x s) : Decidable (NFsynset v x s) := by unfold NFsynset; infer_instance
instance (v l) : Decidable (NFlexicon v l) := by unfold NFlexicon; infer_instance
instance (r) : Decidable (NFresource r) := by unfold NFresource; infer_instance

/-! ### non-vacuity: a resource with an extension, metadata, members, subcat satisfies the hypotheses -/

def demoBase : Lexicon :=
  { id := "a", version := "1", label := "A <&> \"q\"", language := "en", email := "e", license := "l", url := some "http://a",
    md := some [("publisher", "p"), ("note", "n"), ("confidenceScore", "0.9")],
    requires := [⟨"b", "2", some "http://b"⟩],
    entries := [{ id := "e1", md := some [("note", "x")],
                  lemma := some { form := "cat", pos := "n", script := some "Latn", prons := [{ text := "kat", phonemic := some false }], tags := [⟨"t", "c"⟩] },
                  forms := [{ id := some "f1", form := "cats" }],
                  senses := [{ id := "s1", synset := "y1", lexicalized := some false, adjposition := some "p", subcat := ["fr1", "fr2"],
                               relations := [⟨"s1", "also", some [("type", "T")]⟩], examples := [⟨"ex", some "en", none⟩],
                               counts := [⟨3, none⟩] }] }],
    synsets := [{ id := "y1", ili := "in", pos := some "n", iliDef := some ⟨"def", some [("source", "s")]⟩, members := ["s1"],
                  lexfile := some "noun.animal", definitions := [⟨"d", some "en", some "s1", none⟩] }],
    frames := [⟨some "fr1", "F one", []⟩, ⟨some "fr2", "F two", []⟩] }

def demoExt : Lexicon :=
  { id := "x", version := "1", label := "X", language := "en", email := "e", license := "l", ext := some ⟨"a", "1", none⟩,
    entries := [{ external := true, id := "e1", lemma := some { external := true, tags := [⟨"t2", "c"⟩] },
                  forms := [{ external := true, id := some "f1", tags := [⟨"t3", "c"⟩] }, { form := "kitty" }],
                  senses := [{ external := true, id := "s1", examples := [⟨"more", none, none⟩] }] }],
    synsets := [{ external := true, id := "y1", definitions := [⟨"d2", none, none, none⟩] }] }

def demo : Resource := { version := "1.3", lexicons := [demoBase, demoExt] }

example : NFresource demo := by decide +kernel

end WnVerif.Props.C02
