/- `sortedSet` (`sorted(set(strings))`): membership and strict sortedness. -/
import WnVerif.Model.Db
import WnVerif.Lemmas.Lists
namespace WnVerif.Db

theorem mem_insertStr (a : String) : ∀ (l : List String) (x : String), x ∈ insertStr a l ↔ x = a ∨ x ∈ l := by
  intro l
  induction l with
  | nil => intro x; simp [insertStr]
  | cons b t ih =>
    intro x
    rw [insertStr]
    split
    · exact List.mem_cons
    · split
      · rename_i hab
        cases eq_of_beq hab
        simp
      · rw [List.mem_cons, ih, List.mem_cons]
        exact or_left_comm

theorem mem_sortedSet : ∀ (l : List String) (x : String), x ∈ sortedSet l ↔ x ∈ l :=
  mem_foldr_insert insertStr mem_insertStr

theorem insertStr_sorted (a : String) : ∀ (l : List String), l.Pairwise (· < ·) → (insertStr a l).Pairwise (· < ·) := by
  intro l
  induction l with
  | nil => intro _; simp [insertStr]
  | cons b t ih =>
    intro h
    rw [insertStr]
    split
    · rename_i hlt
      exact pairwise_cons_front (R := (· < ·)) String.lt_trans hlt h
    · rename_i hnlt
      split
      · exact h
      · rename_i hne
        have hba : b < a := Decidable.by_contra fun h2 =>
          hne (beq_iff_eq.mpr (String.le_antisymm (String.not_lt.mp h2) (String.not_lt.mp hnlt)))
        exact pairwise_cons_insert hba h (fun x hx => (mem_insertStr a t x).mp hx) (ih (List.pairwise_cons.mp h).2)

theorem sortedSet_sorted : ∀ (l : List String), (sortedSet l).Pairwise (· < ·) := by
  intro l
  induction l with
  | nil => exact List.Pairwise.nil
  | cons a t ih => exact insertStr_sorted a _ ih

end WnVerif.Db
