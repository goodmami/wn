/- The three relation queries (`get_synset_relations`, `get_sense_relations`, `get_sense_synset_relations`): each is
`DISTINCT` of one row function, `relRow`, over its table. -/
import WnVerif.Lemmas.DbAux
namespace WnVerif.Db

/-- what a relation query makes of the row `r` (`sel`: its source is asked for; `T`, `dec`: the table of its target and
how a target row decodes) -/
def relRow {ρ τ} (db : Db) (T : List ρ) (rowid lex : ρ → Nat) (dec : ρ → Option τ) (sel : RRel → Bool)
    (types : List String) (lexids : List Nat) (r : RRel) : Option (RelData τ) :=
  if sel r && inLex lexids r.lex then
    match typeOk db types r.type, T.find? (fun x => rowid x == r.target) with
    | some n, some tgt =>
      if inLex lexids (lex tgt) then
        (dec tgt).map fun d => { name := n, lexicon := lexSpec db r.lex, md := r.md, source := r.source, target := d }
      else none
    | _, _ => none
  else none

theorem relRow_eq_some {ρ τ} {db : Db} {T : List ρ} {rowid lex : ρ → Nat} {dec : ρ → Option τ} {sel : RRel → Bool}
    {types : List String} {lexids : List Nat} {r : RRel} {d : RelData τ} :
    relRow db T rowid lex dec sel types lexids r = some d ↔
      sel r = true ∧ r.lex ∈ lexids ∧ ∃ n tgt t, typeOk db types r.type = some n ∧
        T.find? (fun x => rowid x == r.target) = some tgt ∧ lex tgt ∈ lexids ∧ dec tgt = some t ∧
        d = ⟨n, lexSpec db r.lex, r.md, r.source, t⟩ := by
  unfold relRow
  constructor
  · intro h
    split at h
    · rename_i hc
      rw [Bool.and_eq_true] at hc
      split at h
      · rename_i n tgt hn ht
        split at h
        · obtain ⟨t, hd, rfl⟩ := Option.map_eq_some_iff.mp h
          exact ⟨hc.1, mem_inLex.mp hc.2, n, tgt, t, hn, ht, mem_inLex.mp ‹_›, hd, rfl⟩
        · cases h
      · cases h
    · cases h
  · rintro ⟨hs, hl, n, tgt, t, hn, ht, htl, hd, rfl⟩
    rw [hs, mem_inLex.mpr hl, hn, ht]
    simp only [Bool.and_self, if_true, mem_inLex.mpr htl, hd, Option.map_some]

theorem relRow_outside {ρ τ} {db : Db} {T : List ρ} {rowid lex : ρ → Nat} {dec : ρ → Option τ} {sel : RRel → Bool}
    {types : List String} {lexids : List Nat} {r : RRel} (h : r.lex ∉ lexids) :
    relRow db T rowid lex dec sel types lexids r = none := by
  unfold relRow
  rw [inLex_outside h, Bool.and_false]
  rfl

theorem synsetRelations_eq (db : Db) (sources : List Nat) (types : List String) (lexids : List Nat) :
    synsetRelations db sources types lexids =
      dedupBy (fun r => (r.name, r.lexicon, r.md, r.source, r.target.rowid))
        (db.synrels.filterMap (relRow db db.synsets RSynset.rowid RSynset.lex (fun y => some (synsetData db y))
          (fun r => sources.contains r.source) types lexids)) := by
  simp only [synsetRelations]
  congr 2
  funext r
  unfold relRow
  cases typeOk db types r.type <;> cases db.synsets.find? (fun x => x.rowid == r.target) <;> rfl

theorem senseRelations_eq (db : Db) (source : Nat) (types : List String) (lexids : List Nat) :
    senseRelations db source types lexids =
      dedupBy (fun r => (r.name, r.lexicon, r.md, r.target.rowid))
        (db.senserels.filterMap (relRow db db.senses RSense.rowid RSense.lex (senseData db)
          (fun r => r.source == source) types lexids)) := by
  simp only [senseRelations]
  congr 2
  funext r
  unfold relRow
  cases typeOk db types r.type <;> cases db.senses.find? (fun x => x.rowid == r.target) <;> rfl

theorem senseSynsetRelations_eq (db : Db) (source : Nat) (types : List String) (lexids : List Nat) :
    senseSynsetRelations db source types lexids =
      dedupBy (fun r => (r.name, r.lexicon, r.md, r.source, r.target.rowid))
        (db.sensesynrels.filterMap (relRow db db.synsets RSynset.rowid RSynset.lex (fun y => some (synsetData db y))
          (fun r => r.source == source) types lexids)) := by
  simp only [senseSynsetRelations]
  congr 2
  funext r
  unfold relRow
  cases typeOk db types r.type <;> cases db.synsets.find? (fun x => x.rowid == r.target) <;> rfl

theorem mem_synsetRelations {db : Db} {sources : List Nat} {types : List String} {lexids : List Nat}
    {r : RelData SynsetData} (h : r ∈ synsetRelations db sources types lexids) :
    ∃ row ∈ db.synrels, ∃ tgt, row.source ∈ sources ∧ row.lex ∈ lexids ∧ typeOk db types row.type = some r.name ∧
      db.synsets.find? (fun x => x.rowid == row.target) = some tgt ∧ tgt.lex ∈ lexids ∧
      r = ⟨r.name, lexSpec db row.lex, row.md, row.source, synsetData db tgt⟩ := by
  rw [synsetRelations_eq] at h
  obtain ⟨row, hrow, hr⟩ := List.mem_filterMap.mp (mem_dedupBy _ _ r h)
  obtain ⟨hs, hl, n, tgt, _, hn, ht, htl, hd, rfl⟩ := relRow_eq_some.mp hr
  cases hd
  exact ⟨row, hrow, tgt, List.contains_iff_mem.mp hs, hl, hn, ht, htl, rfl⟩

/-- the converse of `mem_synsetRelations`, up to the `DISTINCT` of the query -/
theorem synsetRelations_of_row {db : Db} {sources : List Nat} {types : List String} {lexids : List Nat}
    {row : RRel} {n : String} {tgt : RSynset} (hrow : row ∈ db.synrels) (hs : row.source ∈ sources)
    (hl : row.lex ∈ lexids) (hn : typeOk db types row.type = some n)
    (ht : db.synsets.find? (fun x => x.rowid == row.target) = some tgt) (htl : tgt.lex ∈ lexids) :
    ∃ r ∈ synsetRelations db sources types lexids, r.name = n ∧ r.lexicon = lexSpec db row.lex ∧ r.md = row.md ∧
      r.source = row.source ∧ r.target.rowid = tgt.rowid := by
  rw [synsetRelations_eq]
  refine (key_mem_dedupBy _ _ (⟨n, lexSpec db row.lex, row.md, row.source, synsetData db tgt⟩ : RelData SynsetData)
    (List.mem_filterMap.mpr ⟨row, hrow, ?_⟩)).imp fun y hy => ⟨hy.1, ?_⟩
  · exact relRow_eq_some.mpr ⟨List.contains_iff_mem.mpr hs, hl, n, tgt, _, hn, ht, htl, rfl, rfl⟩
  · have hk := hy.2
    simp only [Prod.mk.injEq] at hk
    exact hk

end WnVerif.Db
