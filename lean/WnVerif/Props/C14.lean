/-
C14 — the similarity metrics `path`, `wup`, `lch`, `res`.

The formulas are those of `wn/similarity.py` over exact rationals (`Model/Sim.lean`);
`-log` is `Real.log` of Mathlib for `lch`.  Float rounding and `math.log` are
runtime behaviour, tied by the correspondence check only.
-/
import Mathlib.Algebra.Order.Field.Basic
import Mathlib.Tactic.Positivity
import Mathlib.Analysis.SpecialFunctions.Log.Basic
import WnVerif.Model.Sim
import WnVerif.Lemmas.Lists
namespace WnVerif.Props.C14
open WnVerif.Sim WnVerif.Graph

/-- what `path` (`1 / (d + 1)`) and `wup` (`2k / (i + j + 2k)`) share -/
theorem part_of_whole {a b : ℚ} (ha : 0 < a) (hb : 0 ≤ b) :
    0 < a / (b + a) ∧ a / (b + a) ≤ 1 ∧ (a / (b + a) = 1 ↔ b = 0) := by
  have hden : 0 < b + a := add_pos_of_nonneg_of_pos hb ha
  refine ⟨div_pos ha hden, (div_le_one hden).mpr (le_add_of_nonneg_left hb), ?_⟩
  rw [div_eq_one_iff_eq hden.ne', eq_comm, add_eq_right]

theorem pathQ_some (d : Nat) :
    0 < pathQ (some d) ∧ pathQ (some d) ≤ 1 ∧ (pathQ (some d) = 1 ↔ (d : ℚ) = 0) :=
  part_of_whole one_pos (Nat.cast_nonneg d)

theorem C14_path_range (d : Option Nat) : 0 ≤ pathQ d ∧ pathQ d ≤ 1 := by
  cases d with
  | none => exact ⟨le_refl _, zero_le_one⟩
  | some d => exact ⟨(pathQ_some d).1.le, (pathQ_some d).2.1⟩

/-- the path similarity is 1 exactly when the shortest path has length 0 -/
theorem C14_path_one_iff (d : Option Nat) : pathQ d = 1 ↔ d = some 0 := by
  cases d with
  | none => exact iff_of_false zero_ne_one nofun
  | some d => exact (pathQ_some d).2.2.trans (by rw [Nat.cast_eq_zero, Option.some.injEq])

theorem C14_path_zero_iff (d : Option Nat) : pathQ d = 0 ↔ d = none := by
  cases d with
  | none => exact iff_of_true rfl rfl
  | some d => exact iff_of_false (pathQ_some d).1.ne' nofun

theorem C14_path_self_max (d : Option Nat) : pathQ d ≤ pathQ (some 0) :=
  (C14_path_range d).2.trans_eq ((C14_path_one_iff (some 0)).mpr rfl).symm

theorem wupQ_part (i j k : Nat) (hk : 1 ≤ k) :
    0 < wupQ i j k ∧ wupQ i j k ≤ 1 ∧ (wupQ i j k = 1 ↔ (i : ℚ) + j = 0) :=
  part_of_whole (mul_pos two_pos (Nat.cast_pos.mpr hk)) (add_nonneg (Nat.cast_nonneg i) (Nat.cast_nonneg j))

/-- `k` is the depth of the LCS + 1, hence `1 ≤ k` -/
theorem C14_wup_range (i j k : Nat) (hk : 1 ≤ k) : 0 < wupQ i j k ∧ wupQ i j k ≤ 1 :=
  ⟨(wupQ_part i j k hk).1, (wupQ_part i j k hk).2.1⟩

theorem C14_wup_self (k : Nat) (hk : 1 ≤ k) : wupQ 0 0 k = 1 :=
  (wupQ_part 0 0 k hk).2.2.mpr (by rw [Nat.cast_zero, add_zero])

theorem C14_wup_self_max (i j k k' : Nat) (hk : 1 ≤ k) (hk' : 1 ≤ k') :
    wupQ i j k ≤ wupQ 0 0 k' := by
  rw [C14_wup_self k' hk']; exact (C14_wup_range i j k hk).2

/-- the wup formula is symmetric in the two path lengths -/
theorem C14_wup_symm (i j k : Nat) : wupQ i j k = wupQ j i k := by
  unfold wupQ; rw [add_comm (i:ℚ) (j:ℚ)]

/-- the Leacock-Chodorow value `-log ((d + 1) / (2 D))` as a real number -/
noncomputable def lchR (d D : ℕ) : ℝ := -Real.log (((d:ℝ) + 1) / (2 * (D:ℝ)))

/-- the rational computed by the model is the argument of the logarithm -/
theorem C14_lch_arg (d D : ℕ) : ((lchArg d D : ℚ) : ℝ) = ((d:ℝ) + 1) / (2 * (D:ℝ)) := by
  unfold lchArg; push_cast; ring

theorem lchR_antitone {d d' : ℕ} (D : ℕ) (hD : 0 < D) (h : d ≤ d') : lchR d' D ≤ lchR d D := by
  unfold lchR
  have hD' : (0:ℝ) < 2 * (D:ℝ) := by positivity
  apply neg_le_neg
  apply Real.log_le_log (by positivity)
  apply div_le_div_of_nonneg_right _ hD'.le
  exact add_le_add_left (Nat.cast_le.mpr h) 1

theorem C14_lch_self_max (d D : ℕ) (hD : 0 < D) : lchR d D ≤ lchR 0 D :=
  lchR_antitone D hD (Nat.zero_le d)

theorem C14_pos_compatible (p q : String) :
    posCompatible p q = true ↔ (if p = "s" then "a" else p) = (if q = "s" then "a" else q) := by
  simp only [posCompatible, beq_iff_eq]

theorem C14_a_s_compatible : posCompatible "a" "s" = true ∧ posCompatible "s" "a" = true ∧
    posCompatible "s" "s" = true := by decide

theorem C14_pos_error (g : Adj) (fuel : Nat) (pos : Nat → String) (a b : Nat) (sim : Bool) (D : Nat)
    (h : posCompatible (pos a) (pos b) = false) :
    (match Sim.path g fuel pos a b sim with | .error => True | _ => False) ∧
    (match Sim.wup g fuel pos a b sim with | .error => True | _ => False) ∧
    (match Sim.lch g fuel pos a b D sim with | .error => True | _ => False) := by
  simp [Sim.path, Sim.wup, Sim.lch, h]

/-- wup raises without a common hypernym -/
theorem C14_no_common_error (g : Adj) (fuel : Nat) (pos : Nat → String) (a b : Nat) (sim : Bool)
    (h : lowestCommonHypernyms g fuel (some a) (some b) sim = []) :
    (match Sim.wup g fuel pos a b sim with | .error => True | _ => False) := by
  have : Sim.wup g fuel pos a b sim = .error := by
    unfold Sim.wup
    rw [h]
    split <;> rfl
  rw [this]; trivial

theorem C14_path_formula (g : Adj) (fuel : Nat) (pos : Nat → String) (a b : Nat) (sim : Bool)
    (h : posCompatible (pos a) (pos b) = true) :
    Sim.path g fuel pos a b sim =
      .ok (pathQ ((shortestPath g fuel (some a) (some b) sim).map List.length)) := by
  simp [Sim.path, h]

/-- `_most_informative_lcs` returns a lowest common hypernym whose weight is maximal among them:
with weights monotone along hypernymy this is the *least* informative of the lowest common
hypernyms, not the maximum-IC common subsumer the documentation defines (known finding F19).
"partial": this is the part of the documented property that holds. -/
theorem C14_res_partial (g : Adj) (fuel : Nat) (w : Nat → Rat) (a b c : Nat)
    (h : mostInformativeLcs g fuel w a b = some c) :
    c ∈ (lowestCommonHypernyms g fuel (some a) (some b) false).filterMap id ∧
    ∀ x ∈ (lowestCommonHypernyms g fuel (some a) (some b) false).filterMap id, w x ≤ w c := by
  unfold mostInformativeLcs at h
  generalize (lowestCommonHypernyms g fuel (some a) (some b) false).filterMap id = L at h ⊢
  cases L with
  | nil => cases h
  | cons c0 t =>
    cases h
    obtain ⟨h1, h2, h3⟩ := foldl_select (fun m x => if w m < w x then x else m) (fun a b => w a ≤ w b)
      (fun _ => le_refl _) le_trans
      (fun m x => by
        by_cases hlt : w m < w x
        · rw [if_pos hlt]; exact ⟨Or.inr rfl, le_of_lt hlt, le_refl _⟩
        · rw [if_neg hlt]; exact ⟨Or.inl rfl, le_refl _, not_lt.mp hlt⟩) t c0
    exact ⟨List.mem_cons.mpr h1, List.forall_mem_cons.mpr ⟨h2, h3⟩⟩

/-- 0 and 1 have the two lowest common hypernyms 2 and 3 -/
def twoLcs : Adj := fun i => match i with
  | 0 => [2, 3]
  | 1 => [2, 3]
  | 2 => [4]
  | 3 => [4]
  | _ => []

/-- kernel-checked witness: on `twoLcs` with weights w 2 = 5 > w 3 = 1 the code selects 2, whose
information content −log(5/total) is *smaller* than that of 3 — `res` is not the maximum IC over
the common subsumers -/
theorem C14_res_two_lcs_counterexample :
    mostInformativeLcs twoLcs 6 (fun i => if i = 2 then 5 else if i = 3 then 1 else 6) 0 1 = some 2 := by decide +kernel

end WnVerif.Props.C14
