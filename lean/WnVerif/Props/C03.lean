/-
C03 — exporting a database and re-importing it preserves the lexicons.
Theorems over `Model/Export.lean` (`_export.py`) and its composition with `Model/Add.lean`.  The full statement
export ∘ add ≃ id is decided by correspondence and the document-level oracle; proved here are slices of it, the three
end-to-end ones (entries with lemmas and forms, synsets with their children, senses with their children) each composed
from the end-to-end theorems of C01 and what the export makes of the queries (`exportEntries_obs`, `exportSynsets_obs`,
`exportSenses_obs`).
-/
import WnVerif.Model.Export
import WnVerif.Model.Add
import WnVerif.Lemmas.DbAux
import WnVerif.Lemmas.Sorted
import WnVerif.Props.C01
namespace WnVerif.Props.C03
open WnVerif WnVerif.Db WnVerif.Doc WnVerif.Props.C01

/-- `x or ''` / `x or None`: absent and empty are the same for optional attributes -/
def optEq (a b : Option String) : Prop := a.getD "" = b.getD ""

/-- exporting the row written by `_insert_lexicon` gives back the document's lexicon attributes
(optional ones modulo absent = empty) and its metadata (absent = empty dict) -/
theorem C03_lexicon_attributes (db db' : Db) (l : Lexicon) (lexid extid : Nat) (v : String)
    (h : insertLexicon db l = .ok (db', lexid, extid)) :
    ∃ row ∈ db'.lexicons, row.rowid = lexid ∧
      let x := exportLexicon db' row v
      x.id = l.id ∧ x.version = l.version ∧ x.label = l.label ∧ x.language = l.language ∧ x.email = l.email ∧
      x.license = l.license ∧ optEq x.url l.url ∧ optEq x.citation l.citation ∧
      (Lmf.atLeast11 v = true → optEq x.logo l.logo) ∧ x.md = some (l.md.getD []) := by
  obtain ⟨-, -, _, rfl, -, rfl⟩ := insertLexicon_ok h
  refine ⟨_, List.mem_append_right _ (List.mem_singleton_self _), rfl, ?_⟩
  simp only [exportLexicon, optEq, Option.getD_some, mdOrEmpty, true_and, and_true]
  intro hv; simp [hv]

/-- dependencies (LMF ≥ 1.1): exactly the dependency rows of the lexicon, in insertion order, with
the declared id, version and url (not the provider's) -/
theorem C03_dependencies (db : Db) (row : RLexicon) (v : String) (hv : Lmf.atLeast11 v = true) :
    (exportLexicon db row v).requires =
      (db.deps.filter (fun d => d.dependent == row.rowid)).map (fun d => { id := d.pid, version := d.pver, url := d.purl }) := by
  simp [exportLexicon, hv]

/-- after `_insert_lexicon` into a store holding no dependency rows for the fresh rowid, the dependency rows of the
new lexicon (what `C03_dependencies` exports) are the document's `Requires`, in order -/
theorem C03_dependencies_round_trip (db db' : Db) (l : Lexicon) (lexid extid : Nat)
    (h : insertLexicon db l = .ok (db', lexid, extid)) (hclean : ∀ d ∈ db.deps, d.dependent ≠ lexid) :
    (db'.deps.filter (fun d => d.dependent == lexid)).map (fun d => ({ id := d.pid, version := d.pver, url := d.purl } : Dep)) = l.requires := by
  obtain ⟨-, -, _, rfl, -, rfl⟩ := insertLexicon_ok h
  -- re-linking a waiting dependency changes its provider, not its dependent
  have relinked : ∀ d ∈ db.deps.map (fun d => if d.pid == l.id && d.pver == l.version then { d with provider := some lexid } else d),
      (d.dependent == lexid) = false := by
    intro d hd
    obtain ⟨d0, hd0, rfl⟩ := List.mem_map.mp hd
    have := hclean d0 hd0
    split <;> simpa using this
  rw [filter_append_eq_right relinked (fun d hd => by obtain ⟨x, _, rfl⟩ := List.mem_map.mp hd; exact beq_self_eq_true _),
    List.map_map]
  exact List.map_id _

/-- only the selected lexicon's own entries are exported, none of them marked external -/
theorem C03_exports_own_entries (db : Db) (row : RLexicon) (v : String) (e : Entry)
    (h : e ∈ (exportLexicon db row v).entries) :
    ∃ w ∈ findEntries db none [] none [row.rowid] false true, e.id = w.id ∧ w.lex = row.rowid ∧ e.external = false := by
  simp only [exportLexicon, exportEntries, List.mem_map] at h
  obtain ⟨w, hw, rfl⟩ := h
  exact ⟨w, hw, rfl, C04_inside w hw, rfl⟩
where
  C04_inside (w : WordData) (hw : w ∈ findEntries db none [] none [row.rowid] false true) : w.lex = row.rowid := by
    obtain ⟨e, -, hl, -, -, -, hwl, -⟩ := mem_findEntries hw
    simpa [inLexOrAll, ← hwl] using hl

/-- ILI encoding: a synset with an ILI is exported with that ILI; one with only a proposed ILI
with `ili="in"`; one with neither with the empty string -/
theorem C03_ili_encoding (db : Db) (lexids : List Nat) (v11 : Bool) (s : Synset) (h : s ∈ exportSynsets db lexids v11) :
    ∃ y ∈ findSynsets db none [] none none lexids false true, s.id = y.id ∧
      s.ili = (match y.ili with
        | some i => if i != "" then i else (if (db.pilis.find? (fun p => p.synset == y.rowid)).isSome then "in" else "")
        | none => if (db.pilis.find? (fun p => p.synset == y.rowid)).isSome then "in" else "") := by
  simp only [exportSynsets, List.mem_map] at h
  obtain ⟨y, hy, rfl⟩ := h
  exact ⟨y, hy, rfl, rfl⟩

/-- a proposed ILI is exported even when it has no definition (`ili="in"` without ILIDefinition),
and with its definition and metadata when it has one -/
theorem C03_proposed_ili (db : Db) (lexids : List Nat) (v11 : Bool) (y : SynsetData)
    (hy : y ∈ findSynsets db none [] none none lexids false true) (hno : y.ili = none)
    (p : RPIli) (hp : db.pilis.find? (fun p => p.synset == y.rowid) = some p) :
    ∃ s ∈ exportSynsets db lexids v11, s.id = y.id ∧ s.ili = "in" ∧
      s.iliDef = (match p.definition with
        | some d => if d != "" then some { text := d, md := some (p.md.getD []) } else none
        | none => none) := by
  refine ⟨_, List.mem_map.mpr ⟨y, hy, rfl⟩, rfl, ?_, ?_⟩
  · simp [hno, hp]
  · simp only [hp, mdOrEmpty]
    cases p.definition <;> rfl

/-- LMF 1.0 encoding: frame `f` lists sense `sid` exactly when the store links `sid` to a frame
with that text — no link is lost, none invented -/
theorem C03_frame_links_1_0 (db : Db) (lexids : List Nat) (senses : List Sense) (fr sid : String) :
    (∃ f ∈ exportFrames10 db lexids senses, f.frame = fr ∧ sid ∈ f.senses) ↔
      (∃ s ∈ senses, s.id = sid ∧ ∃ e ∈ sbMap db lexids sid, e.2 = fr) := by
  unfold exportFrames10
  simp only [List.mem_map]
  constructor
  · rintro ⟨f, ⟨fr', _, rfl⟩, rfl, hs⟩
    rw [mem_sortedSet] at hs
    simp only [List.mem_map, List.mem_filter, List.mem_flatMap] at hs
    obtain ⟨p, ⟨⟨s, hs1, e, he, rfl⟩, hp⟩, rfl⟩ := hs
    simp only [beq_iff_eq] at hp
    exact ⟨s, hs1, rfl, e, he, hp⟩
  · rintro ⟨s, hs, rfl, e, he, rfl⟩
    have hpair : (e.2, s.id) ∈ senses.flatMap (fun s => (sbMap db lexids s.id).map (fun e => (e.2, s.id))) := by
      simp only [List.mem_flatMap, List.mem_map]
      exact ⟨s, hs, e, he, rfl⟩
    obtain ⟨k, hk, hkk⟩ := key_mem_dedupBy id
      ((senses.flatMap (fun s : Sense => (sbMap db lexids s.id).map (fun e : Option String × String => (e.2, s.id)))).map (·.1)) e.2
      (List.mem_map.mpr ⟨_, hpair, rfl⟩)
    simp only [id] at hkk
    refine ⟨_, ⟨k, hk, rfl⟩, hkk, ?_⟩
    rw [mem_sortedSet]
    simp only [List.mem_map, List.mem_filter]
    exact ⟨(e.2, s.id), ⟨hpair, by simp [hkk]⟩, rfl⟩

theorem mem_subcat_exported {db : Db} {entry : Nat} {lexids : List Nat} {s : Sense}
    (h : s ∈ exportSenses db entry lexids true) (fid : String) :
    fid ∈ s.subcat ↔ fid ≠ "" ∧ ∃ e ∈ sbMap db lexids s.id, e.1 = some fid := by
  simp only [exportSenses, List.mem_map] at h
  obtain ⟨sd, _, rfl⟩ := h
  split
  · rw [mem_sortedSet, List.mem_filterMap]
    constructor
    · rintro ⟨e, he, hx⟩
      split at hx
      · rename_i i hi
        split at hx
        · rename_i hne
          cases hx
          exact ⟨by simpa using hne, e, he, hi⟩
        · cases hx
      · cases hx
    · rintro ⟨hne, e, he, hi⟩
      exact ⟨e, he, by simp [hi, hne]⟩
  · rename_i hemp
    have : sbMap db lexids sd.id = [] := by simpa using hemp
    simp [this]

/-- LMF ≥ 1.1 encoding: `subcat` of an exported sense is the sorted set of the ids of the frames
linked to it (frames without an id cannot be referenced: known finding F2-residual).  `hne` is not used: this is
`mem_subcat_exported`, which holds also of a sense no frame is linked to. -/
theorem C03_subcat_links (db : Db) (entry : Nat) (lexids : List Nat) (s : Sense) (h : s ∈ exportSenses db entry lexids true)
    (hne : (sbMap db lexids s.id).isEmpty = false) (fid : String) :
    fid ∈ s.subcat ↔ fid ≠ "" ∧ ∃ e ∈ sbMap db lexids s.id, e.1 = some fid :=
  mem_subcat_exported h fid

/-- known finding F2-residual, stated on the model: when the frames linked to a sense carry no id
(entry-level frames of a 1.0 document), the ≥ 1.1 export has an empty `subcat` although the store
holds the links -/
theorem C03_frames_without_id_lose_links (db : Db) (entry : Nat) (lexids : List Nat) (s : Sense)
    (h : s ∈ exportSenses db entry lexids true) (hnoid : ∀ e ∈ sbMap db lexids s.id, e.1 = none) : s.subcat = [] := by
  apply List.eq_nil_iff_forall_not_mem.mpr
  intro fid hfid
  obtain ⟨-, e, he, hi⟩ := (mem_subcat_exported h fid).mp hfid
  rw [hnoid e he] at hi
  cases hi

/-- what an exported entry says about its word forms: id, lemma (written form, part of speech, script)
and the further forms (written form, id, script); absent script / id and the empty string are the
same thing for the exporter (`x or ''`) -/
def entryObs (e : Entry) : String × Option (String × String × String) × List (String × String × String) :=
  (e.id, e.lemma.map (fun l => (l.form, l.pos, l.script.getD "")),
   e.forms.map (fun f => (f.form, f.id.getD "", f.script.getD "")))

/-- the same for an entry of the added document (external forms are not part of the lexicon) -/
def docEntryObs (e : Entry) : String × Option (String × String × String) × List (String × String × String) :=
  (e.id, e.lemma.map (fun l => (l.form, l.pos, l.script.getD "")),
   (e.forms.filter (fun f => !f.external)).map (fun f => (f.form, f.id.getD "", f.script.getD "")))

/-- the observation `entryObs` / `docEntryObs` in terms of the one `words()` is specified by (`C01.obsWord` /
`C01.docWord`): the first form is the lemma -/
def entryObsOfWord (o : String × String × List (String × Option String × Option String)) :
    String × Option (String × String × String) × List (String × String × String) :=
  (o.1, o.2.2.head?.map (fun f => (f.1, o.2.1, f.2.2.getD "")), (o.2.2.drop 1).map (fun f => (f.1, f.2.1.getD "", f.2.2.getD "")))

theorem exportEntries_obs (db : Db) (lexids : List Nat) (v11 : Bool) :
    (exportEntries db lexids v11).map entryObs =
      ((findEntries db none [] none lexids false true).map obsWord).map entryObsOfWord := by
  unfold exportEntries
  rw [List.map_map, List.map_map]
  apply List.map_congr_left
  intro w hw
  -- a listed word has a first form: its lemma
  obtain ⟨e, -, -, -, -, -, -, -, hne⟩ := mem_findEntries hw
  obtain ⟨f, fs, hf⟩ := List.exists_cons_of_ne_nil hne
  simp [entryObs, entryObsOfWord, obsWord, hf]

/-- add a plain lexicon, export it (any LMF version): the exported entries are the document's entries, in order, with
the same ids, lemmas (written form, part of speech, script) and further forms (written form, id, script) -/
theorem C03_entries_round_trip (norm : String → String) (dr : Nat) (db db' : Db) (l : Lexicon) (v11 : Bool)
    (h : addLexicon norm dr db l = .ok db') (hext : l.ext = none) (hx : ∀ e ∈ l.entries, e.external = false)
    (hfkE : ∀ o ∈ db.entries, o.lex ∈ db.lexicons.map (·.rowid))
    (hfkF : ∀ f ∈ db.forms, f.entry ∈ db.entries.map (·.rowid)) :
    (exportEntries db' [nextId (db.lexicons.map (·.rowid))] v11).map entryObs = l.entries.map docEntryObs := by
  rw [exportEntries_obs, C01_words_end_to_end norm dr db db' l h hext hx hfkE hfkF, List.map_map]
  apply List.map_congr_left
  intro e he
  -- `_insert_entries` went through, so every entry has a lemma
  obtain ⟨c, rows, chunks, _, _, _, hR, _, _⟩ := addLexicon_words_tables norm dr db db' l h hext hx
  obtain ⟨_, -, _, _, _, lem, hl, _⟩ := hR.rows.exists_of_mem_left e he
  simp [entryObsOfWord, docWord, docEntryObs, hl]

def synChildrenObs (s : Synset) : String × List (String × String × Option Meta) × List (String × Option String) × List (String × Option String × Option Meta) :=
  (s.id, s.relations.map docRel, s.definitions.map (fun d => (d.text, d.language)), s.examples.map (fun x => (x.text, x.language, x.md)))

def docSynChildrenObs (s : Synset) : String × List (String × String × Option Meta) × List (String × Option String) × List (String × Option String × Option Meta) :=
  (s.id, dedupBy id (s.relations.map docRel), s.definitions.map (fun d => (d.text, d.language)),
   s.examples.map (fun x => (x.text, x.language, mdOrEmpty x.md)))

theorem exportSynsets_obs (db : Db) (lexids : List Nat) (v11 : Bool) :
    (exportSynsets db lexids v11).map synChildrenObs =
      (findSynsets db none [] none none lexids false true).map (fun y =>
        (y.id, (synsetRelations db [y.rowid] ["*"] lexids).map obsSynRel,
         (definitions db y.rowid lexids).map (fun d => (d.1, d.2.1)),
         (synsetExamples db y.rowid lexids).map (fun x => (x.text, x.language, mdOrEmpty x.md)))) := by
  unfold exportSynsets
  rw [List.map_map]
  apply List.map_congr_left
  intro y _
  simp only [Function.comp, synChildrenObs, List.map_map]
  rfl

/-- add a plain lexicon whose synset ids are pairwise distinct, export it (any version): the exported synsets are the
document's, in order, each with exactly its relations (type, target id, metadata; exact duplicates once), its
definitions (text, language) and its examples (text, language, metadata with the empty dictionary for none) in
document order -/
theorem C03_synset_children_round_trip (norm : String → String) (dr : Nat) (db db' : Db) (l : Lexicon) (v11 : Bool)
    (h : addLexicon norm dr db l = .ok db') (hext : l.ext = none) (hx : ∀ ss ∈ l.synsets, ss.external = false)
    (hids : (l.synsets.map (·.id)).Nodup)
    (hfkY : ∀ o ∈ db.synsets, o.lex ∈ db.lexicons.map (·.rowid))
    (hfkR : ∀ o ∈ db.synrels, o.lex ∈ db.lexicons.map (·.rowid))
    (hfkD : ∀ o ∈ db.defs, o.lex ∈ db.lexicons.map (·.rowid))
    (hfkX : ∀ o ∈ db.synexs, o.lex ∈ db.lexicons.map (·.rowid))
    (hnY : (db.synsets.map (·.rowid)).Nodup) (hnI : (db.ilis.map (·.rowid)).Nodup) (hnT : (db.reltypes.map (·.1)).Nodup) :
    (exportSynsets db' [nextId (db.lexicons.map (·.rowid))] v11).map synChildrenObs = l.synsets.map docSynChildrenObs := by
  obtain ⟨t⟩ := addLexicon_split norm dr db db' l h
  have hlid := t.lid_plain hext
  have hloc : localSynsets l = l.synsets := List.filter_eq_self.mpr fun ss hss => by rw [hx ss hss]; rfl
  have hlist := C01_synsets_end_to_end norm dr db db' l h hfkY hnI
  rw [hloc] at hlist
  rw [← t.lexid_eq] at hlist ⊢
  rw [exportSynsets_obs]
  refine Forall2.map_eq_mem _ docSynChildrenObs (Forall2.of_map_eq hlist) fun ss hss y hy hobs => ?_
  -- `y` was decoded from a synset row of the new lexicon, which is the one found under the id of `ss`
  obtain ⟨r, hr, hyr, hyi, -, -, -, hrl⟩ := C01_synsets_decode db' _ y hy
  have hid : y.id = ss.id := congrArg Prod.fst hobs
  have hx0 : synsetRow db' ss.id (t.ctx.lid ss.id) = some y.rowid := by
    rw [hlid, ← hid, hyi, hyr]
    exact synsetRow_new t hfkY (hloc ▸ hids) hr (by rwa [inLexOrAll_singleton, beq_iff_eq] at hrl)
  have hrel := C01_synset_relations_end_to_end t hfkR hnY hnT ["*"] rfl ss.id y.rowid hx0
  have hdef := C01_definitions_end_to_end t hfkD hnY ss.id y.rowid hx0
  have hex := C01_synset_examples_end_to_end t hfkX hnY ss.id y.rowid hx0
  simp only [hlid, beq_self_eq_true, Bool.and_true] at hrel
  -- with distinct synset ids, the children listed under the id of `ss` are those of `ss`
  rw [synRelPairs, pairs_filter_of_nodup (fun s : Synset => s.id) (fun s => s.relations) l.synsets hids ss hss, List.map_map] at hrel
  rw [defPairs, pairs_filter_of_nodup (fun s : Synset => s.id) (fun s => s.definitions) l.synsets hids ss hss, List.map_map] at hdef
  rw [synExPairs, pairs_filter_of_nodup (fun s : Synset => s.id) (fun s => s.examples) l.synsets hids ss hss, List.map_map] at hex
  exact Prod.ext hid (Prod.ext hrel (Prod.ext hdef
    (map_comp_of_map_eq (fun o : String × Option String × Option Meta => (o.1, o.2.1, mdOrEmpty o.2.2)) hex)))

def allSenses (l : Lexicon) : List Sense := l.entries.flatMap (·.senses)

theorem allSenseRels_eq (l : Lexicon) :
    allSenseRels l = ((allSenses l).flatMap (fun s => s.relations.map (fun r => (s, r)))).map (fun p => (p.1.id, p.2)) := by
  unfold allSenseRels allSenses
  rw [List.flatMap_assoc, List.map_flatMap]
  congr 1
  funext e
  rw [List.map_flatMap]
  congr 1
  funext s
  rw [List.map_map]
  rfl

theorem senseExPairs_eq (l : Lexicon) : senseExPairs l = (allSenses l).flatMap (fun s => s.examples.map (fun x => (s, x))) := by
  unfold senseExPairs allSenses
  rw [List.flatMap_assoc]

theorem countPairs_eq (l : Lexicon) : countPairs l = (allSenses l).flatMap (fun s => s.counts.map (fun x => (s, x))) := by
  unfold countPairs allSenses
  rw [List.flatMap_assoc]

theorem senseIds_eq (l : Lexicon) : l.entries.flatMap (fun e => e.senses.map (·.id)) = (allSenses l).map (·.id) := by
  unfold allSenses
  rw [List.map_flatMap]

theorem allSenseRels_filter (l : Lexicon) (hn : ((allSenses l).map (·.id)).Nodup) (s : Sense) (hs : s ∈ allSenses l)
    (q : String → Bool) :
    ((allSenseRels l).filter (fun p => q p.2.target)).filter (fun p => p.1 == s.id) =
      (s.relations.filter (fun r => q r.target)).map (fun r => (s.id, r)) := by
  rw [List.filter_filter, List.filter_congr (fun p _ => Bool.and_comm _ _), ← List.filter_filter, allSenseRels_eq,
    List.filter_map]
  have := pairs_filter_of_nodup (fun x : Sense => x.id) (fun x => x.relations) (allSenses l) hn s hs
  rw [show ((fun p : String × Relation => p.1 == s.id) ∘ fun p : Sense × Relation => (p.1.id, p.2)) = fun p => p.1.id == s.id from rfl,
    this, List.map_map, List.filter_map]
  rfl

def senseChildrenObs (s : Sense) : String × String × List (String × String × Option Meta) × List (String × Option String × Option Meta) × List (Int × Option Meta) :=
  (s.id, s.synset, s.relations.map docRel, s.examples.map (fun x => (x.text, x.language, x.md)), s.counts.map (fun c => (c.value, c.md)))

def docSenseChildrenObs (l : Lexicon) (s : Sense) : String × String × List (String × String × Option Meta) × List (String × Option String × Option Meta) × List (Int × Option Meta) :=
  (s.id, s.synset,
   dedupBy id ((s.relations.filter (fun r => ((allSenses l).map (·.id)).contains r.target)).map docRel) ++
   dedupBy id ((s.relations.filter (fun r => !((allSenses l).map (·.id)).contains r.target && (l.synsets.map (·.id)).contains r.target)).map docRel),
   s.examples.map (fun x => (x.text, x.language, mdOrEmpty x.md)), s.counts.map (fun c => (c.value, mdOrEmpty c.md)))

theorem exportSenses_obs (db : Db) (entry : Nat) (lexids : List Nat) (v11 : Bool) :
    (exportSenses db entry lexids v11).map senseChildrenObs =
      (entrySenses db entry lexids).map (fun d =>
        (d.id, d.synsetId, (exportSenseRelations db d.rowid lexids).map docRel,
         (senseExamples db d.rowid lexids).map (fun x => (x.text, x.language, mdOrEmpty x.md)),
         (senseCounts db d.rowid lexids).map (fun c => (c.value, mdOrEmpty c.md)))) := by
  unfold exportSenses
  rw [List.map_map]
  apply List.map_congr_left
  intro d _
  simp only [Function.comp, senseChildrenObs, List.map_map]
  rfl

theorem localSenses_eq {l : Lexicon} (hxs : ∀ s ∈ allSenses l, s.external = false) {e : Entry} (he : e ∈ l.entries) :
    localSenses e = e.senses :=
  List.filter_eq_self.mpr fun s hs => by rw [hxs s (List.mem_flatMap.mpr ⟨e, he, hs⟩)]; rfl

theorem sensePairs_ids (l : Lexicon) (hxs : ∀ s ∈ allSenses l, s.external = false) :
    (sensePairs l).map (fun p => p.2.1.id) = (allSenses l).map (·.id) := by
  unfold sensePairs allSenses
  rw [List.map_flatMap, List.map_flatMap, List.flatMap_def, List.flatMap_def]
  congr 1
  apply List.map_congr_left
  intro e he
  rw [List.map_map, localSenses_eq hxs he, ← List.zipIdx_map_fst 0 e.senses, List.map_map, List.zipIdx_map_fst]
  rfl

/-- add a plain lexicon whose entry ids and sense ids are pairwise distinct, export it (any version): every exported
entry lists exactly its senses, in order, each with its id, its synset id, its relations (sense→sense relations first,
then sense→synset relations, as the export writes them; type, target id, metadata; exact duplicates once), its
examples and its counts -/
theorem C03_sense_children_round_trip (norm : String → String) (dr : Nat) (db db' : Db) (l : Lexicon) (v11 : Bool)
    (h : addLexicon norm dr db l = .ok db') (hext : l.ext = none) (hx : ∀ e ∈ l.entries, e.external = false)
    (hxs : ∀ s ∈ allSenses l, s.external = false)
    (hids : (l.entries.map (·.id)).Nodup) (hsids : ((allSenses l).map (·.id)).Nodup)
    (hfkE : ∀ o ∈ db.entries, o.lex ∈ db.lexicons.map (·.rowid))
    (hfkF : ∀ f ∈ db.forms, f.entry ∈ db.entries.map (·.rowid))
    (hfkS : ∀ o ∈ db.senses, o.lex ∈ db.lexicons.map (·.rowid))
    (hfkR : ∀ o ∈ db.senserels, o.lex ∈ db.lexicons.map (·.rowid))
    (hfkR2 : ∀ o ∈ db.sensesynrels, o.lex ∈ db.lexicons.map (·.rowid))
    (hfkX : ∀ o ∈ db.sensexs, o.lex ∈ db.lexicons.map (·.rowid))
    (hfkC : ∀ o ∈ db.counts, o.lex ∈ db.lexicons.map (·.rowid))
    (hnS : (db.senses.map (·.rowid)).Nodup) (hnE : (db.entries.map (·.rowid)).Nodup)
    (hnY : (db.synsets.map (·.rowid)).Nodup) (hnT : (db.reltypes.map (·.1)).Nodup) :
    (exportEntries db' [nextId (db.lexicons.map (·.rowid))] v11).map (fun e => (e.id, e.senses.map senseChildrenObs)) =
      l.entries.map (fun e => (e.id, e.senses.map (docSenseChildrenObs l))) := by
  obtain ⟨t⟩ := addLexicon_split norm dr db db' l h
  have hlid := t.lid_plain hext
  -- what the export writes for one stored sense of the new lexicon: with distinct sense ids, the
  -- children the document lists under the id of `s` are those of `s`
  have children : ∀ s ∈ allSenses l, ∀ x0, senseRow db' s.id t.lexid = some x0 →
      ((exportSenseRelations db' x0 [t.lexid]).map docRel,
       (senseExamples db' x0 [t.lexid]).map (fun x => (x.text, x.language, mdOrEmpty x.md)),
       (senseCounts db' x0 [t.lexid]).map (fun c => (c.value, mdOrEmpty c.md))) = (docSenseChildrenObs l s).2.2 := by
    intro s hs x0 hx0
    rw [← hlid s.id] at hx0
    have h1 := C01_sense_relations_end_to_end t hfkR hfkS hnS hnE hnY hnT ["*"] rfl s.id x0 hx0
    have h2 := C01_sense_synset_relations_end_to_end t hfkR2 hnS hnY hnT ["*"] rfl s.id x0 hx0
    have h3 := C01_sense_examples_end_to_end t hfkX hnS s.id x0 hx0
    have h4 := C01_counts_end_to_end t hfkC hnS s.id x0 hx0
    simp only [hlid, beq_self_eq_true, Bool.and_true] at h1 h2
    rw [senseRelPairs, senseIds_eq, allSenseRels_filter l hsids s hs, List.map_map] at h1
    rw [senseSynRelPairs, senseIds_eq,
      allSenseRels_filter l hsids s hs (fun i => !((allSenses l).map (·.id)).contains i && (l.synsets.map (·.id)).contains i),
      List.map_map] at h2
    rw [senseExPairs_eq, pairs_filter_of_nodup (fun x : Sense => x.id) (fun x => x.examples) (allSenses l) hsids s hs, List.map_map] at h3
    rw [countPairs_eq, pairs_filter_of_nodup (fun x : Sense => x.id) (fun x => x.counts) (allSenses l) hsids s hs, List.map_map] at h4
    have hrel : (exportSenseRelations db' x0 [t.lexid]).map docRel = (docSenseChildrenObs l s).2.2.1 := by
      unfold exportSenseRelations
      rw [List.map_append, List.map_map, List.map_map]
      exact congr (congrArg _ h1) h2
    exact Prod.ext hrel (Prod.ext
      (map_comp_of_map_eq (fun o : String × Option String × Option Meta => (o.1, o.2.1, mdOrEmpty o.2.2)) h3)
      (map_comp_of_map_eq (fun o : Int × Option Meta => (o.1, mdOrEmpty o.2)) h4))
  have hwords := C01_words_end_to_end norm dr db db' l h hext hx hfkE hfkF
  have hsids' : ((sensePairs l).map (fun p => p.2.1.id)).Nodup := by rw [sensePairs_ids l hxs]; exact hsids
  rw [← t.lexid_eq] at hwords ⊢
  unfold exportEntries
  rw [List.map_map]
  refine Forall2.map_eq_mem _ _ (Forall2.of_map_eq hwords) fun e he w hw hobs => ?_
  -- `w` was made from an entry row of the new lexicon, which is the one found under the id of `e`
  obtain ⟨r, hr, hrl, hwr, hwi, -⟩ := mem_findEntries hw
  have hid : w.id = e.id := congrArg Prod.fst hobs
  have her : entryRow db' e.id (t.ctx.lid e.id) = some w.rowid := by
    rw [hlid, ← hid, hwi, hwr]
    exact entryRow_new t hfkE hr (by rwa [inLexOrAll_singleton, beq_iff_eq] at hrl)
  have hsenses := C01_word_senses_end_to_end t hfkS hnE hnY hids e he _ her
  rw [localSenses_eq hxs he] at hsenses
  refine Prod.ext hid ?_
  show (exportSenses db' w.rowid [t.lexid] v11).map senseChildrenObs = _
  rw [exportSenses_obs]
  refine Forall2.map_eq_mem _ (docSenseChildrenObs l) (Forall2.of_map_eq hsenses) fun s hs d hd hsd => ?_
  -- likewise `d` and the sense row found under the id of `s`
  obtain ⟨d1, d2⟩ := Prod.mk.inj hsd
  obtain ⟨row, hrow, -, hrowl, hdata⟩ := (mem_entrySenses db' _ _ d).mp hd
  obtain ⟨_, _, -, -, hdrow⟩ := senseData_eq_some hdata
  have hx0 : senseRow db' s.id t.lexid = some d.rowid := by
    rw [← d1, hdrow]
    exact senseRow_new t hfkS hsids' hrow (List.mem_singleton.mp hrowl)
  exact Prod.ext d1 (Prod.ext d2 (children s (List.mem_flatMap.mpr ⟨_, he, hs⟩) d.rowid hx0))

end WnVerif.Props.C03
