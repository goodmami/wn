/-
C08 — lexicon specifiers and language codes select exactly the documented lexicons.
Model: `Model/Glob.lean` (SQLite GLOB, `find_lexicons`).  `glob` is characterised on three shapes
of pattern: no metacharacter (`C08_literal`), `*` alone (`C08_star`), a plain prefix followed by `*`
(`C08_id_star`).  A star elsewhere occurs in `C08_example` only; `?` and `[…]` occur in no theorem
and are left to the correspondence with SQLite.
-/
import WnVerif.Model.Glob
namespace WnVerif.Props.C08
open WnVerif.Glob WnVerif.Db

/-- not a metacharacter of GLOB -/
def PlainC (c : Char) : Prop := c ≠ '*' ∧ c ≠ '?' ∧ c ≠ '['

theorem glob_plain_cons {c : Char} (hc : PlainC c) (p : List Char) (d : Char) (s : List Char) (fuel : Nat) :
    glob (fuel + 1) (c :: p) (d :: s) = (c == d && glob fuel p s) := by
  -- the catch-all equation of `glob` has the side conditions `c = '*' → False` etc.; `simp` finds them in the context
  obtain ⟨h1, h2, h3⟩ := hc
  simp [glob]

theorem glob_plain_nil {c : Char} (hc : PlainC c) (p : List Char) (fuel : Nat) : glob fuel (c :: p) [] = false := by
  obtain ⟨h1, h2, h3⟩ := hc
  simp [glob]

theorem glob_plain_append (p : List Char) (hp : ∀ c ∈ p, PlainC c) (q : List Char) (fuel : Nat) : ∀ s : List Char,
    glob (p.length + fuel) (p ++ q) s = true ↔ ∃ t, s = p ++ t ∧ glob fuel q t = true := by
  induction p with
  | nil => simp
  | cons c p ih =>
    have hc := hp c List.mem_cons_self
    have ih := ih fun c hc => hp c (List.mem_cons_of_mem _ hc)
    intro s
    cases s with
    | nil => simp [glob_plain_nil hc]
    | cons d s =>
      rw [List.length_cons, Nat.add_right_comm, List.cons_append, glob_plain_cons hc, Bool.and_eq_true, beq_iff_eq, ih]
      simp only [List.cons_append, List.cons.injEq]
      exact ⟨fun ⟨e, t, ht⟩ => ⟨t, ⟨e.symm, ht.1⟩, ht.2⟩, fun ⟨t, ⟨e, h1⟩, h2⟩ => ⟨e.symm, t, h1, h2⟩⟩

theorem glob_nil (fuel : Nat) (s : List Char) : glob fuel [] s = true ↔ s = [] := by
  cases s <;> simp [glob]

/-- a pattern without metacharacters matches exactly itself (the shape of an `id:version` specifier) -/
theorem glob_plain : ∀ (p s : List Char) (fuel : Nat), (∀ c ∈ p, PlainC c) → p.length ≤ fuel →
    (glob fuel p s = true ↔ s = p) := by
  intro p s fuel hp hf
  obtain ⟨k, rfl⟩ := Nat.exists_eq_add_of_le hf
  have := glob_plain_append p hp [] k s
  rw [List.append_nil] at this
  simp only [this, glob_nil, exists_eq_right, List.append_nil]

theorem C08_literal (p s : List Char) (hp : ∀ c ∈ p, PlainC c) : globL p s = true ↔ s = p :=
  glob_plain p s _ hp (by omega)

/-- `*` matches every string (`'*'` selects all lexicons) -/
theorem glob_star_all : ∀ (s : List Char) (fuel : Nat), s.length < fuel → glob fuel ['*'] s = true := by
  intro s
  induction s with
  | nil => intro fuel h; cases fuel with
    | zero => omega
    | succ f => simp [glob]
  | cons c s ih =>
    intro fuel h
    cases fuel with
    | zero => omega
    | succ f =>
      have := ih f (by simp at h; omega)
      simp [glob, this]

theorem C08_star (s : List Char) : globL ['*'] s = true :=
  glob_star_all s _ (by simp; omega)

/-- a plain prefix followed by `*` matches exactly the strings with that prefix (the shape of `id:*`, prefix `id:`) -/
theorem glob_prefix_star : ∀ (p s : List Char) (fuel : Nat), (∀ c ∈ p, PlainC c) → p.length + s.length < fuel →
    (glob fuel (p ++ ['*']) s = true ↔ p.isPrefixOf s = true) := by
  intro p s fuel hp hf
  obtain ⟨k, rfl⟩ := Nat.exists_eq_add_of_le (Nat.le_of_lt (Nat.lt_of_le_of_lt (Nat.le_add_right _ _) hf))
  rw [glob_plain_append p hp, List.isPrefixOf_iff_prefix]
  constructor
  · rintro ⟨t, rfl, _⟩; exact List.prefix_append p t
  · rintro ⟨t, rfl⟩
    exact ⟨t, rfl, glob_star_all t k (by rw [List.length_append] at hf; omega)⟩

theorem C08_id_star (p s : List Char) (hp : ∀ c ∈ p, PlainC c) :
    globL (p ++ ['*']) s = true ↔ p.isPrefixOf s = true :=
  glob_prefix_star p s _ hp (by simp [List.length_append]; omega)

theorem pickLast_eq_none {rows : List RLexicon} (h : pickLast rows = none) : rows = [] := by
  cases rows with
  | nil => rfl
  | cons a t =>
    rw [pickLast] at h
    split at h
    · cases h
    · split at h <;> cases h

theorem pickLast_eq_some : ∀ {rows : List RLexicon} {y : RLexicon}, pickLast rows = some y →
    y ∈ rows ∧ ∀ z ∈ rows, z.rowid ≤ y.rowid
  | a :: t, y, h => by
    rw [pickLast] at h
    cases hp : pickLast t with
    | none =>
      rw [hp] at h
      cases h
      rw [pickLast_eq_none hp]
      exact ⟨List.mem_cons_self, fun z hz => List.mem_singleton.mp hz ▸ Nat.le_refl _⟩
    | some x =>
      obtain ⟨hx, hmax⟩ := pickLast_eq_some hp
      rw [hp] at h
      dsimp only at h
      by_cases hlt : x.rowid < a.rowid
      · rw [if_pos hlt] at h
        cases h
        exact ⟨List.mem_cons_self, List.forall_mem_cons.mpr
          ⟨Nat.le_refl _, fun z hz => Nat.le_of_lt (Nat.lt_of_le_of_lt (hmax z hz) hlt)⟩⟩
      · rw [if_neg hlt] at h
        cases h
        exact ⟨List.mem_cons_of_mem _ hx, List.forall_mem_cons.mpr ⟨Nat.le_of_not_lt hlt, hmax⟩⟩

/-- starred or colon-containing specifiers select *all* matching lexicons -/
theorem C08_all_matching (db : Db) (spec : List Char) (lang : Option String)
    (hs : (spec.contains '*' || spec.contains ':') = true) (r : RLexicon) :
    r ∈ matchSpecifier db spec lang ↔ r ∈ db.lexicons ∧ specMatches spec lang r = true := by
  unfold matchSpecifier
  simp only [hs, if_true, List.mem_filter]

/-- a bare id selects exactly one lexicon when some lexicon matches: the one with the greatest
rowid, i.e. (rowids are allocated as max+1) the most recently added one -/
theorem C08_bare_most_recent (db : Db) (spec : List Char) (lang : Option String)
    (hb : (spec.contains '*' || spec.contains ':') = false) :
    (matchSpecifier db spec lang = [] ∧ ∀ r ∈ db.lexicons, specMatches spec lang r = false) ∨
    (∃ y, matchSpecifier db spec lang = [y] ∧ y ∈ db.lexicons ∧ specMatches spec lang y = true ∧
      ∀ z ∈ db.lexicons, specMatches spec lang z = true → z.rowid ≤ y.rowid) := by
  unfold matchSpecifier
  simp only [hb, Bool.false_eq_true, if_false]
  cases hp : pickLast (db.lexicons.filter (specMatches spec lang)) with
  | none =>
    exact Or.inl ⟨rfl, fun r hr => Bool.eq_false_iff.mpr (List.filter_eq_nil_iff.mp (pickLast_eq_none hp) r hr)⟩
  | some y =>
    obtain ⟨hy, hmax⟩ := pickLast_eq_some hp
    obtain ⟨hy1, hy2⟩ := List.mem_filter.mp hy
    exact Or.inr ⟨y, rfl, hy1, hy2, fun z hz hm => hmax z (List.mem_filter.mpr ⟨hz, hm⟩)⟩

/-- every lexicon returned for a specifier matches it by GLOB and has the requested language:
"a lexicon matched by none of the given specifiers is never selected" -/
theorem C08_never_unmatched (db : Db) (spec : List Char) (lang : Option String) (r : RLexicon)
    (h : r ∈ matchSpecifier db spec lang) : r ∈ db.lexicons ∧ specMatches spec lang r = true := by
  by_cases hs : (spec.contains '*' || spec.contains ':') = true
  · exact (C08_all_matching db spec lang hs r).mp h
  · rcases C08_bare_most_recent db spec lang (Bool.eq_false_iff.mpr hs) with ⟨he, -⟩ | ⟨y, hy, h1, h2, -⟩
    · rw [he] at h
      cases h
    · rw [hy] at h
      exact List.mem_singleton.mp h ▸ ⟨h1, h2⟩

theorem C08_bare_at_most_one (db : Db) (spec : List Char) (lang : Option String)
    (hb : (spec.contains '*' || spec.contains ':') = false) : (matchSpecifier db spec lang).length ≤ 1 := by
  unfold matchSpecifier
  simp only [hb, Bool.false_eq_true, if_false]
  split <;> simp

/-- the language code restricts to lexicons of that language -/
theorem C08_lang (db : Db) (spec : List Char) (l : String) (r : RLexicon)
    (h : r ∈ matchSpecifier db spec (some l)) : r.language = l := by
  have := (C08_never_unmatched db spec (some l) r h).2
  simp only [specMatches, Bool.and_eq_true, beq_iff_eq] at this
  exact this.2

/-- a request that matches nothing is an error exactly when it specifies something -/
theorem C08_none_error_vs_empty (db : Db) (lexicon : String) (lang : Option String) :
    findLexicons db lexicon lang = none ↔
      ((splitWs lexicon.toList).flatMap (fun sp => matchSpecifier db sp lang) = [] ∧ (lexicon ≠ "*" ∨ lang.isSome)) := by
  unfold findLexicons
  simp only [ite_eq_left_iff, reduceCtorEq, imp_false, Decidable.not_not, Bool.and_eq_true, List.isEmpty_iff,
    Bool.or_eq_true, bne_iff_ne, ne_eq]

/-- the result of a space-separated list is the concatenation (union) of its specifiers' results -/
theorem C08_union (db : Db) (lexicon : String) (lang : Option String) (rows : List RLexicon)
    (h : findLexicons db lexicon lang = some rows) :
    rows = (splitWs lexicon.toList).flatMap (fun sp => matchSpecifier db sp lang) := by
  unfold findLexicons at h
  dsimp only at h
  split at h
  · cases h
  · exact (Option.some.inj h).symm

/-- two versions added in the order 2020, 2019, and a lexicon of another language -/
def demoDb : Db := { lexicons := [
  { rowid := 1, id := "ewn", label := "", language := "en", email := "", license := "", version := "2020", url := none, citation := none, logo := none, md := none },
  { rowid := 2, id := "ewn", label := "", language := "en", email := "", license := "", version := "2019", url := none, citation := none, logo := none, md := none },
  { rowid := 3, id := "ewnx", label := "", language := "de", email := "", license := "", version := "2019", url := none, citation := none, logo := none, md := none }] }

/-- non-vacuity: the bare id selects 2019, the version added last; a star in either place selects
all matches; the language restricts; nothing found is an error unless nothing was asked for -/
theorem C08_example :
    ((findLexicons demoDb "ewn" none).map (·.map (·.version))) = some ["2019"] ∧
    ((findLexicons demoDb "ewn:*" none).map (·.map (·.version))) = some ["2020", "2019"] ∧
    ((findLexicons demoDb "*:2019" none).map (·.map (·.id))) = some ["ewn", "ewnx"] ∧
    ((findLexicons demoDb "ewn ewnx:*" (some "de")).map (·.map (·.id))) = some ["ewnx"] ∧
    findLexicons demoDb "zz" none = none ∧ findLexicons Db.empty "*" none = some [] := by
  decide +kernel

end WnVerif.Props.C08
