import WnVerif.Gen.Constants
import WnVerif.Gen.Morphy
import WnVerif.Gen.Lmf
import WnVerif.Gen.Schema
import WnVerif.Gen.Misc
import WnVerif.Model.Add
import WnVerif.Model.Api
import WnVerif.Model.Db
import WnVerif.Model.Doc
import WnVerif.Model.Export
import WnVerif.Model.Glob
import WnVerif.Model.Graph
import WnVerif.Model.Ic
import WnVerif.Model.Lmf
import WnVerif.Model.LmfScan
import WnVerif.Model.Morphy
import WnVerif.Model.Project
import WnVerif.Model.Query
import WnVerif.Model.Remove
import WnVerif.Model.Sim
import WnVerif.Model.Txn
import WnVerif.Model.Validate
import WnVerif.Lemmas.Acyclic
import WnVerif.Lemmas.AddGrows
import WnVerif.Lemmas.AddSteps
import WnVerif.Lemmas.AddTables
import WnVerif.Lemmas.AddTrace
import WnVerif.Lemmas.Counter
import WnVerif.Lemmas.DbAux
import WnVerif.Lemmas.Decimal
import WnVerif.Lemmas.Dict
import WnVerif.Lemmas.ForIn
import WnVerif.Lemmas.Forall2
import WnVerif.Lemmas.GrowsQuery
import WnVerif.Lemmas.InsertNew
import WnVerif.Lemmas.ListAux
import WnVerif.Lemmas.Lists
import WnVerif.Lemmas.LmfAttr
import WnVerif.Lemmas.LmfTree
import WnVerif.Lemmas.Paths
import WnVerif.Lemmas.RelQuery
import WnVerif.Lemmas.Sorted
import WnVerif.Lemmas.StrTable
import WnVerif.Lemmas.Walk
import WnVerif.Lemmas.Worklist
import WnVerif.Props.C01
import WnVerif.Props.C02
import WnVerif.Props.C03
import WnVerif.Props.C04
import WnVerif.Props.C05
import WnVerif.Props.C06
import WnVerif.Props.C07
import WnVerif.Props.C08
import WnVerif.Props.C09
import WnVerif.Props.C10
import WnVerif.Props.C11
import WnVerif.Props.C12
import WnVerif.Props.C13
import WnVerif.Props.C14
import WnVerif.Props.C15
import WnVerif.Props.C16
import WnVerif.Props.C17
import WnVerif.Props.C18
import WnVerif.Props.C19
import WnVerif.Props.C20
