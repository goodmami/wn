/- One successful `addLexicon`, pass by pass.  Every pass writes its tables once and for all, so the store after the
k-th pass is known from `db` and `db'` alone (`stage1` … `stage9`, `AddTrace.stages`), and each pass runs between two
such stores (`t.syn`, `t.ent`, …): there every table is by `rfl` that of `db` (not written yet) or of `db'` (written),
which is how the theorems about one pass are read as theorems about the whole add. -/
import WnVerif.Lemmas.AddSteps
import WnVerif.Lemmas.DbAux
namespace WnVerif.Db
open WnVerif WnVerif.Doc

/-- the intermediate stores of a successful `addLexicon` -/
structure AddTrace (norm : String → String) (dr : Nat) (db db' : Db) (l : Lexicon) where
  sbs : List Sb
  lexid : Nat
  extid : Nat
  d1 : Db
  d2 : Db
  d3 : Db
  d4 : Db
  d5 : Db
  d6 : Db
  d7 : Db
  d8 : Db
  hsbs : collectFrames l = .ok sbs
  hlex : insertLexicon (updateLookups db l) l = .ok (d1, lexid, extid)
  hsyn : insertSynsets d1 l ⟨lexid, extid, externalIds l⟩ = .ok d2
  hent : insertEntries d2 l ⟨lexid, extid, externalIds l⟩ = .ok d3
  hform : insertForms d3 norm l ⟨lexid, extid, externalIds l⟩ = .ok d4
  hpt : insertPronsTags d4 l ⟨lexid, extid, externalIds l⟩ = .ok d5
  hsen : insertSenses d5 l ⟨lexid, extid, externalIds l⟩ dr = .ok d6
  hsb : insertSbs d6 sbs ⟨lexid, extid, externalIds l⟩ = .ok d7
  hrel : insertRelations d7 l ⟨lexid, extid, externalIds l⟩ = .ok d8
  hdx : insertDefsExamples d8 l ⟨lexid, extid, externalIds l⟩ = .ok db'

def AddTrace.ctx {norm dr db db' l} (t : AddTrace norm dr db db' l) : Ctx := ⟨t.lexid, t.extid, externalIds l⟩

theorem addLexicon_split (norm : String → String) (dr : Nat) (db db' : Db) (l : Lexicon)
    (h : addLexicon norm dr db l = .ok db') : Nonempty (AddTrace norm dr db db' l) := by
  unfold addLexicon at h
  obtain ⟨sbs, h0, h⟩ := bind_ok h
  obtain ⟨⟨d1, lexid, extid⟩, h1, h⟩ := bind_ok h
  obtain ⟨d2, h2, h⟩ := bind_ok h
  obtain ⟨d3, h3, h⟩ := bind_ok h
  obtain ⟨d4, h4, h⟩ := bind_ok h
  obtain ⟨d5, h5, h⟩ := bind_ok h
  obtain ⟨d6, h6, h⟩ := bind_ok h
  obtain ⟨d7, h7, h⟩ := bind_ok h
  obtain ⟨d8, h8, h⟩ := bind_ok h
  exact ⟨⟨sbs, lexid, extid, d1, d2, d3, d4, d5, d6, d7, d8, h0, h1, h2, h3, h4, h5, h6, h7, h8, h⟩⟩

/-! The store after the k-th pass: the initial store, look-up tables updated, in which the tables of the first k
passes are already those of `db'`.  `relation_types` and `lexfiles` are written by `_update_lookup_tables` only,
`ili_statuses` not at all. -/
section
variable (db db' : Db) (l : Lexicon)
@[reducible] def stage1 : Db := { updateLookups db l with
    lexicons := db'.lexicons, deps := db'.deps, exts := db'.exts }
@[reducible] def stage2 : Db := { updateLookups db l with
    lexicons := db'.lexicons, deps := db'.deps, exts := db'.exts, ilis := db'.ilis, synsets := db'.synsets,
    pilis := db'.pilis }
@[reducible] def stage3 : Db := { updateLookups db l with
    lexicons := db'.lexicons, deps := db'.deps, exts := db'.exts, ilis := db'.ilis, synsets := db'.synsets,
    pilis := db'.pilis, entries := db'.entries }
@[reducible] def stage4 : Db := { updateLookups db l with
    lexicons := db'.lexicons, deps := db'.deps, exts := db'.exts, ilis := db'.ilis, synsets := db'.synsets,
    pilis := db'.pilis, entries := db'.entries, forms := db'.forms }
@[reducible] def stage5 : Db := { updateLookups db l with
    lexicons := db'.lexicons, deps := db'.deps, exts := db'.exts, ilis := db'.ilis, synsets := db'.synsets,
    pilis := db'.pilis, entries := db'.entries, forms := db'.forms, prons := db'.prons, tags := db'.tags }
@[reducible] def stage6 : Db := { updateLookups db l with
    lexicons := db'.lexicons, deps := db'.deps, exts := db'.exts, ilis := db'.ilis, synsets := db'.synsets,
    pilis := db'.pilis, entries := db'.entries, forms := db'.forms, prons := db'.prons, tags := db'.tags,
    senses := db'.senses, adjs := db'.adjs, counts := db'.counts }
@[reducible] def stage7 : Db := { updateLookups db l with
    lexicons := db'.lexicons, deps := db'.deps, exts := db'.exts, ilis := db'.ilis, synsets := db'.synsets,
    pilis := db'.pilis, entries := db'.entries, forms := db'.forms, prons := db'.prons, tags := db'.tags,
    senses := db'.senses, adjs := db'.adjs, counts := db'.counts, sbs := db'.sbs, sbsenses := db'.sbsenses }
@[reducible] def stage8 : Db := { updateLookups db l with
    lexicons := db'.lexicons, deps := db'.deps, exts := db'.exts, ilis := db'.ilis, synsets := db'.synsets,
    pilis := db'.pilis, entries := db'.entries, forms := db'.forms, prons := db'.prons, tags := db'.tags,
    senses := db'.senses, adjs := db'.adjs, counts := db'.counts, sbs := db'.sbs, sbsenses := db'.sbsenses,
    synrels := db'.synrels, senserels := db'.senserels, sensesynrels := db'.sensesynrels }
@[reducible] def stage9 : Db := { updateLookups db l with
    lexicons := db'.lexicons, deps := db'.deps, exts := db'.exts, ilis := db'.ilis, synsets := db'.synsets,
    pilis := db'.pilis, entries := db'.entries, forms := db'.forms, prons := db'.prons, tags := db'.tags,
    senses := db'.senses, adjs := db'.adjs, counts := db'.counts, sbs := db'.sbs, sbsenses := db'.sbsenses,
    synrels := db'.synrels, senserels := db'.senserels, sensesynrels := db'.sensesynrels, defs := db'.defs,
    sensexs := db'.sensexs, synexs := db'.synexs }
end

structure AddTrace.Stages {norm dr db db' l} (t : AddTrace norm dr db db' l) : Prop where
  d1 : t.d1 = stage1 db db' l
  d2 : t.d2 = stage2 db db' l
  d3 : t.d3 = stage3 db db' l
  d4 : t.d4 = stage4 db db' l
  d5 : t.d5 = stage5 db db' l
  d6 : t.d6 = stage6 db db' l
  d7 : t.d7 = stage7 db db' l
  d8 : t.d8 = stage8 db db' l
  last : db' = stage9 db db' l

theorem AddTrace.stages {norm dr db db' l} (t : AddTrace norm dr db db' l) : t.Stages := by
  obtain ⟨sbs, lexid, extid, d1, d2, d3, d4, d5, d6, d7, d8, -, h1, h2, h3, h4, h5, h6, h7, h8, h9⟩ := t
  -- each pass output is re-flattened (`dsimp only`) before it is substituted: nine nested record
  -- updates are a term that `rfl` cannot compare in reasonable time
  obtain ⟨_, _, _, e⟩ := insertLexicon_writes h1; subst e
  obtain ⟨_, _, _, _, -, -, -, -, e⟩ := insertSynsets_split h2; dsimp only at e; subst e
  obtain ⟨_, e⟩ := insertEntries_writes h3; dsimp only at e; subst e
  obtain ⟨_, e⟩ := insertForms_writes h4; dsimp only at e; subst e
  obtain ⟨_, _, -, -, e⟩ := insertPronsTags_split h5; dsimp only at e; subst e
  obtain ⟨_, _, _, -, -, -, e⟩ := insertSenses_split h6; dsimp only at e; subst e
  obtain ⟨_, _, -, -, e⟩ := insertSbs_split h7; dsimp only at e; subst e
  obtain ⟨_, _, _, -, -, -, e⟩ := insertRelations_split h8; dsimp only at e; subst e
  obtain ⟨_, _, _, -, -, -, e⟩ := insertDefsExamples_split h9; dsimp only at e; subst e
  exact ⟨rfl, rfl, rfl, rfl, rfl, rfl, rfl, rfl, rfl⟩

theorem AddTrace.reltypes_eq {norm dr db db' l} (t : AddTrace norm dr db db' l) : db'.reltypes = (updateLookups db l).reltypes :=
  (congrArg Db.reltypes t.stages.last :)

section
variable {norm : String → String} {dr : Nat} {db db' : Db} {l : Lexicon} (t : AddTrace norm dr db db' l)

theorem AddTrace.syn : insertSynsets (stage1 db db' l) l t.ctx = .ok (stage2 db db' l) := t.stages.d1 ▸ t.stages.d2 ▸ t.hsyn
theorem AddTrace.ent : insertEntries (stage2 db db' l) l t.ctx = .ok (stage3 db db' l) := t.stages.d2 ▸ t.stages.d3 ▸ t.hent
theorem AddTrace.form : insertForms (stage3 db db' l) norm l t.ctx = .ok (stage4 db db' l) := t.stages.d3 ▸ t.stages.d4 ▸ t.hform
theorem AddTrace.pt : insertPronsTags (stage4 db db' l) l t.ctx = .ok (stage5 db db' l) := t.stages.d4 ▸ t.stages.d5 ▸ t.hpt
theorem AddTrace.sen : insertSenses (stage5 db db' l) l t.ctx dr = .ok (stage6 db db' l) := t.stages.d5 ▸ t.stages.d6 ▸ t.hsen
theorem AddTrace.sb : insertSbs (stage6 db db' l) t.sbs t.ctx = .ok (stage7 db db' l) := t.stages.d6 ▸ t.stages.d7 ▸ t.hsb
theorem AddTrace.rel : insertRelations (stage7 db db' l) l t.ctx = .ok (stage8 db db' l) := t.stages.d7 ▸ t.stages.d8 ▸ t.hrel
theorem AddTrace.dx : insertDefsExamples (stage8 db db' l) l t.ctx = .ok (stage9 db db' l) :=
  t.stages.d8 ▸ (show insertDefsExamples t.d8 l t.ctx = .ok (stage9 db db' l) from t.stages.last ▸ t.hdx)

theorem AddTrace.lexid_eq : t.lexid = nextId (db.lexicons.map (·.rowid)) :=
  (insertLexicon_ok t.hlex).2.1

theorem AddTrace.old_lex_ne {ρ} {T : List ρ} {lex : ρ → Nat} (hfk : ∀ o ∈ T, lex o ∈ db.lexicons.map (·.rowid)) :
    ∀ o ∈ T, lex o ≠ t.lexid :=
  fun o ho e => nextId_not_mem _ (t.lexid_eq ▸ e ▸ hfk o ho)

theorem AddTrace.lexicons_eq : db'.lexicons = db.lexicons ++ [{
    rowid := t.lexid, id := l.id, label := l.label, language := l.language, email := l.email,
    license := l.license, version := l.version, url := l.url, citation := l.citation, logo := l.logo, md := l.md }] := by
  obtain ⟨-, -, _, rfl, -, e⟩ := insertLexicon_ok t.hlex
  exact (congrArg Db.lexicons (t.stages.d1.symm.trans e) :)

theorem AddTrace.extid_plain (hext : l.ext = none) : t.extid = t.lexid := by
  obtain ⟨-, -, _, -, hx, -⟩ := insertLexicon_ok t.hlex
  rw [hext] at hx
  exact hx

theorem AddTrace.lid_plain (hext : l.ext = none) (i : String) : t.ctx.lid i = t.lexid :=
  Ctx.lid_of_plain (c := t.ctx) (t.extid_plain hext) i

end

end WnVerif.Db
