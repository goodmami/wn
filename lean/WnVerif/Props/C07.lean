/-
C07 — the way a resource is supplied does not change what gets stored.
Dispatch of `iterpackages` (routes, packages, collections, what is rejected); the skip rules of `_precheck` and the
loop of `add_lexical_resource`.  All that the skip rules see of an add is the (id, version) it installs, so an add
leaves alone the decision for every lexicon it is independent of (`Indep`).  The loop decides up front (`skOf`); for
mutually independent lexicons that is deciding at each lexicon's turn (`stepNow`), which is what one resource per
lexicon does, and it leaves every lexicon skipped for a second add.
-/
import WnVerif.Model.Project
import WnVerif.Model.Add
import WnVerif.Lemmas.AddTrace
namespace WnVerif.Props.C07
open WnVerif.Project

/-- every documented route around one WN-LMF file yields exactly that file -/
theorem C07_routes (name : String) (extra : List Node) (hextra : ∀ n ∈ extra, resourceOf n = none) :
    iterpackages 10 (.lmf name) = some [.wordnet name] ∧
    iterpackages 10 (.gz (.lmf name)) = some [.wordnet name] ∧
    iterpackages 10 (.xz (.lmf name)) = some [.wordnet name] ∧
    iterpackages 10 (.dir (.lmf name :: extra)) = some [.wordnet name] ∧
    iterpackages 10 (.tar [.lmf name]) = some [.wordnet name] ∧
    iterpackages 10 (.tar [.dir (.lmf name :: extra)]) = some [.wordnet name] ∧
    iterpackages 10 (.tar [.gz (.lmf name)]) = some [.wordnet name] := by
  have hfm : extra.filterMap resourceOf = [] := by
    rw [List.filterMap_eq_nil_iff]; exact hextra
  simp [iterpackages, packageResource, resourceOf, hfm]

/-- a package directory stays a package whatever readme / licence / citation files accompany
the resource, but two resource files make it invalid as a package -/
theorem C07_package_needs_exactly_one (cs : List Node) :
    (∃ r, packageResource (.dir cs) = some r) ↔ (cs.filterMap resourceOf).length = 1 := by
  simp only [packageResource]
  constructor
  · rintro ⟨r, h⟩
    split at h
    · rename_i heq; simp [heq]
    · simp at h
  · intro h
    match hm : cs.filterMap resourceOf, h with
    | [r], _ => exact ⟨r, by simp⟩

/-- a collection yields the resource of each of its package sub-directories, in order -/
theorem C07_collection (cs : List Node) (hnot : packageResource (.dir cs) = none)
    (hsome : cs.filterMap packageResource ≠ []) :
    iterpackages 10 (.dir cs) = some (cs.filterMap packageResource) := by
  simp only [iterpackages, hnot]
  have : (cs.filterMap packageResource).isEmpty = false := by
    simpa [List.isEmpty_iff] using hsome
  simp [this]

/-- an archive with more than one top-level member, a doubly compressed file, or a path with
no resource is rejected -/
theorem C07_rejects (a b : Node) (ms : List Node) (name : String) :
    iterpackages 10 (.tar (a :: b :: ms)) = none ∧ iterpackages 10 (.tar []) = none ∧
    iterpackages 10 (.gz (.gz (.lmf name))) = none ∧ iterpackages 10 .other = none ∧
    iterpackages 10 (.dir []) = none := by
  simp [iterpackages, resourceOf, packageResource]

/-- first skip rule of `_precheck`: a lexicon whose id and version are already installed is skipped -/
theorem C07_skip_installed (db : Db.Db) (l : Doc.Lexicon) (h : (Db.lexiconRow db l.id l.version).isSome = true) :
    Db.skip db l = true := by
  simp [Db.skip, h]

/-- second skip rule: an extension whose base is not installed is skipped -/
theorem C07_ext_skipped (db : Db.Db) (l : Doc.Lexicon) (b : Doc.Dep) (hb : l.ext = some b)
    (hmiss : Db.lexiconRow db b.id b.version = none) : Db.skip db l = true := by
  unfold Db.skip
  split
  · rfl
  · simp [hb, hmiss]

section OneFileOrMany
open WnVerif WnVerif.Db WnVerif.Doc

/-- all the skip rules see of an add -/
theorem addLexicon_installed {norm : String → String} {dr : Nat} {cur c : Db} {a : Lexicon}
    (h : addLexicon norm dr cur a = .ok c) (id version : String) :
    (lexiconRow c id version).isSome = ((lexiconRow cur id version).isSome || (a.id == id && a.version == version)) := by
  obtain ⟨t⟩ := addLexicon_split _ _ _ _ _ h
  simp only [lexiconRow_isSome, t.lexicons_eq, List.any_append, List.any_cons, List.any_nil, Bool.or_false]

theorem skip_after_add {norm : String → String} {dr : Nat} {cur c : Db} {a : Lexicon}
    (h : addLexicon norm dr cur a = .ok c) : skip c a = true := by
  unfold skip
  rw [addLexicon_installed h, beq_self_eq_true, beq_self_eq_true, Bool.and_self, Bool.or_true, if_pos rfl]

/-- installing `a` cannot change whether `l` is skipped: `a` is neither `l` itself nor the lexicon `l` extends -/
def Indep (a l : Lexicon) : Prop :=
  ¬ (a.id = l.id ∧ a.version = l.version) ∧ ∀ b, l.ext = some b → ¬ (a.id = b.id ∧ a.version = b.version)

theorem skip_frame {norm : String → String} {dr : Nat} {cur c : Db} {a l : Lexicon}
    (h : addLexicon norm dr cur a = .ok c) (hi : Indep a l) : skip c l = skip cur l := by
  have hne : ∀ id version, ¬ (a.id = id ∧ a.version = version) →
      (lexiconRow c id version).isSome = (lexiconRow cur id version).isSome := by
    intro id version hn
    have : (a.id == id && a.version == version) = false := by simpa using hn
    rw [addLexicon_installed h, this, Bool.or_false]
  unfold skip
  rw [hne _ _ hi.1]
  cases hb : l.ext with
  | none => rfl
  | some b => simp only [← Option.not_isSome, hne _ _ (hi.2 b hb)]

/-- the skip decision the up-front `skipmap` dict holds for a lexicon of the resource -/
def skOf (db : Db) (ls : List Lexicon) (l : Lexicon) : Bool :=
  ((((ls.map (fun l => (l.spec, skip db l))).filter (fun e => e.1 == l.spec)).getLast?).map (·.2)).getD false

/-- the turn of one lexicon when the skip decision is taken on the database as it is then -/
def stepNow (norm : String → String) (rank : Nat) (cur : Db) (l : Lexicon) : R Db :=
  if skip cur l then pure cur else addLexicon norm rank cur l

theorem addResource_eq_fold (norm : String → String) (rank : Nat) (db : Db) (v : String) (ls : List Lexicon) :
    addResource norm rank db ⟨v, ls⟩ =
      ls.foldlM (fun cur l => if skOf db ls l then pure cur else addLexicon norm rank cur l) db := by
  unfold addResource
  rw [← forIn_foldlM, bind_pure]
  congr 1
  funext l cur
  -- `continue` is `pure (.yield cur)`
  show (if skOf db ls l = true then _ else _) = _
  cases skOf db ls l <;> rfl

theorem skOf_eq (db : Db) (ls : List Lexicon) (hn : (ls.map (·.spec)).Nodup) (l : Lexicon) (hl : l ∈ ls) :
    skOf db ls l = skip db l := by
  unfold skOf
  cases h : ((ls.map (fun l => (l.spec, skip db l))).filter (fun e => e.1 == l.spec)).getLast? with
  | none =>
    have := List.filter_eq_nil_iff.mp (List.getLast?_eq_none_iff.mp h) _ (List.mem_map.mpr ⟨l, hl, rfl⟩)
    simp at this
  | some e =>
    obtain ⟨he, hs⟩ := List.mem_filter.mp (List.mem_of_getLast? h)
    obtain ⟨l', hl', rfl⟩ := List.mem_map.mp he
    rw [mem_eq_of_key Lexicon.spec ls hn l' hl' l hl (beq_iff_eq.mp hs)]
    rfl

theorem skOf_single (db : Db) (l : Lexicon) : skOf db [l] l = skip db l :=
  skOf_eq db [l] (List.pairwise_singleton _ _) l (List.mem_singleton_self l)

theorem addResource_all_skipped (norm : String → String) (rank : Nat) (db : Db) (v : String) (ls : List Lexicon)
    (h : ∀ l ∈ ls, skOf db ls l = true) : addResource norm rank db ⟨v, ls⟩ = .ok db := by
  rw [addResource_eq_fold]
  exact foldlM_fixed fun l hl => if_pos (h l hl)

/-- a resource of one lexicon that is skipped changes nothing (`addResource_all_skipped`: any number of lexicons) -/
theorem C07_all_skipped_noop (norm : String → String) (rank : Nat) (db : Db.Db) (l : Doc.Lexicon)
    (h : Db.skip db l = true) : Db.addResource norm rank db ⟨"1.1", [l]⟩ = .ok db :=
  addResource_all_skipped norm rank db "1.1" [l] fun l' hl' => by rw [List.mem_singleton.mp hl', skOf_single, h]

theorem addResource_single (norm : String → String) (rank : Nat) (d : Db) (v : String) (l : Lexicon) :
    addResource norm rank d ⟨v, [l]⟩ = stepNow norm rank d l := by
  rw [addResource_eq_fold, List.foldlM_cons, skOf_single]
  exact bind_pure _

theorem stepNow_ok {norm : String → String} {rank : Nat} {cur c : Db} {a : Lexicon} (h : stepNow norm rank cur a = .ok c) :
    (skip cur a = true ∧ c = cur) ∨ addLexicon norm rank cur a = .ok c := by
  unfold stepNow at h
  split at h
  · exact Or.inl ⟨‹_›, (Except.ok.inj h).symm⟩
  · exact Or.inr h

theorem stepNow_skip_self {norm : String → String} {rank : Nat} {cur c : Db} {a : Lexicon}
    (h : stepNow norm rank cur a = .ok c) : skip c a = true := by
  rcases stepNow_ok h with ⟨hs, rfl⟩ | h
  · exact hs
  · exact skip_after_add h

theorem stepNow_skip_frame {norm : String → String} {rank : Nat} {cur c : Db} {a l : Lexicon}
    (h : stepNow norm rank cur a = .ok c) (hi : Indep a l) : skip c l = skip cur l := by
  rcases stepNow_ok h with ⟨-, rfl⟩ | h
  · rfl
  · exact skip_frame h hi

/-- as long as no lexicon can change the skip decision of a later one, a skip map that is right now stays
right: deciding up front is deciding at each lexicon's turn -/
theorem fold_skip_now (norm : String → String) (rank : Nat) (sk0 : Lexicon → Bool) :
    ∀ (xs : List Lexicon) (cur : Db), xs.Pairwise Indep → (∀ l ∈ xs, skip cur l = sk0 l) →
      xs.foldlM (fun cur l => if sk0 l then pure cur else addLexicon norm rank cur l) cur =
        xs.foldlM (stepNow norm rank) cur
  | [], _, _, _ => rfl
  | a :: t, cur, hp, hinv => by
    obtain ⟨hpa, hpt⟩ := List.pairwise_cons.mp hp
    rw [List.foldlM_cons, List.foldlM_cons, ← hinv a List.mem_cons_self]
    show stepNow norm rank cur a >>= _ = _
    cases hs : stepNow norm rank cur a with
    | error e => rfl
    | ok c =>
      exact fold_skip_now norm rank sk0 t c hpt fun l hl =>
        (stepNow_skip_frame hs (hpa l hl)).trans (hinv l (List.mem_cons_of_mem _ hl))

theorem fold_keeps_skip (norm : String → String) (rank : Nat) (l0 : Lexicon) :
    ∀ (t : List Lexicon) (cur db' : Db), t.foldlM (stepNow norm rank) cur = .ok db' → (∀ x ∈ t, Indep x l0) →
      skip db' l0 = skip cur l0 :=
  foldlM_ok_induct _ _ (fun _ _ => rfl) fun a _ _ _ _ hs _ ih h =>
    (ih fun x hx => h x (List.mem_cons_of_mem _ hx)).trans (stepNow_skip_frame hs (h a List.mem_cons_self))

/-- when no lexicon can change the skip decision of an earlier one, every lexicon is skipped once the loop is through:
it was skipped or installed at its turn, and nothing later touches that -/
theorem fold_skipped_after (norm : String → String) (rank : Nat) :
    ∀ (xs : List Lexicon) (cur db' : Db), xs.foldlM (stepNow norm rank) cur = .ok db' →
      xs.Pairwise (fun l x => Indep x l) → ∀ l ∈ xs, skip db' l = true :=
  foldlM_ok_induct _ _ (fun _ _ l hl => absurd hl List.not_mem_nil) fun a t _ c db' hs ht ih hp l hl => by
    obtain ⟨hpa, hpt⟩ := List.pairwise_cons.mp hp
    rcases List.mem_cons.mp hl with rfl | hlt
    · rw [fold_keeps_skip norm rank l t c db' ht hpa]
      exact stepNow_skip_self hs
    · exact ih hpt l hlt

/-- `fold_skipped_after` with the independence spelled out; `C07_add_again_changes_nothing` does not go through this -/
theorem fold_all_skipped_after (norm : String → String) (rank : Nat) :
    ∀ (xs : List Lexicon) (cur db' : Db), xs.foldlM (stepNow norm rank) cur = .ok db' →
      xs.Pairwise (fun a b => ¬ (a.id = b.id ∧ a.version = b.version)) →
      (∀ l ∈ xs, ∀ b, l.ext = some b → ∀ l' ∈ xs, ¬ (l'.id = b.id ∧ l'.version = b.version)) →
      ∀ l ∈ xs, skip db' l = true :=
  fun xs cur db' h hp hb => fold_skipped_after norm rank xs cur db' h <|
    hp.imp_of_mem fun hl hx hne => ⟨fun e => hne ⟨e.1.symm, e.2.symm⟩, fun b hlb => hb _ hl b hlb _ hx⟩

theorem addResource_eq_fold_now (norm : String → String) (rank : Nat) (db : Db) (v : String) (ls : List Lexicon)
    (hd : (ls.map (·.spec)).Nodup) (hi : ls.Pairwise Indep) :
    addResource norm rank db ⟨v, ls⟩ = ls.foldlM (stepNow norm rank) db := by
  rw [addResource_eq_fold]
  exact fold_skip_now norm rank (skOf db ls) ls db hi fun l hl => (skOf_eq db ls hd l hl).symm

/-- `Pairwise Indep`: no lexicon may be, or be extended by, a later one; an extension may precede its base -/
theorem addResource_eq_fold_single (norm : String → String) (rank : Nat) (db : Db) (v : String) (ls : List Lexicon)
    (hd : (ls.map (·.spec)).Nodup) (hi : ls.Pairwise Indep) :
    addResource norm rank db ⟨v, ls⟩ = ls.foldlM (fun d l => addResource norm rank d ⟨v, [l]⟩) db := by
  rw [addResource_eq_fold_now norm rank db v ls hd hi]
  congr 1
  funext d l
  exact (addResource_single norm rank d v l).symm

theorem indep_of_independent {ls : List Lexicon} (hd : (ls.map (·.spec)).Nodup)
    (hind : ∀ l ∈ ls, ∀ b, l.ext = some b → ∀ l' ∈ ls, ¬ (l'.id = b.id ∧ l'.version = b.version)) :
    ls.Pairwise (fun a b => Indep a b ∧ Indep b a) :=
  (List.pairwise_map.mp hd).imp_of_mem fun {a b} ha hb hne =>
    have hab : ¬ (a.id = b.id ∧ a.version = b.version) := fun h => hne (by unfold Lexicon.spec; rw [h.1, h.2])
    ⟨⟨hab, fun c hbc => hind b hb c hbc a ha⟩, fun e => hab ⟨e.1.symm, e.2.symm⟩, fun c hac => hind a ha c hac b hb⟩

/-- a resource holding several lexicons with distinct specifiers, none of which extends another lexicon of the same
resource ("mutually independent"), stores exactly what supplying the same lexicons one resource at a time, in the same
order, stores, on any database; that includes which of them are skipped and the failing case (the same error at the
same lexicon) -/
theorem C07_one_file_or_many (norm : String → String) (rank : Nat) (db : Db) (v : String) (ls : List Lexicon)
    (hd : (ls.map (·.spec)).Nodup)
    (hind : ∀ l ∈ ls, ∀ b, l.ext = some b → ∀ l' ∈ ls, ¬ (l'.id = b.id ∧ l'.version = b.version)) :
    addResource norm rank db ⟨v, ls⟩ = ls.foldlM (fun d l => addResource norm rank d ⟨v, [l]⟩) db :=
  addResource_eq_fold_single norm rank db v ls hd ((indep_of_independent hd hind).imp And.left)

/-! non-vacuity: two independent lexicons meet the hypotheses and both get installed either way;
and the independence hypothesis is essential: a base and its extension shipped in one file store
*less* than the two supplied one after the other (the extension is skipped by the up-front precheck) -/
def lexA : Lexicon :=
  { id := "a", version := "1", label := "A", language := "en", email := "e", license := "l",
    synsets := [{ id := "a-1", pos := some "n" }] }
def lexB : Lexicon := { id := "b", version := "1", label := "B", language := "en", email := "e", license := "l" }
def lexX : Lexicon :=
  { id := "x", version := "1", label := "X", language := "en", email := "e", license := "l",
    ext := some { id := "a", version := "1" } }

example : (([lexA, lexB].map (·.spec)).Nodup ∧
    ∀ l ∈ [lexA, lexB], ∀ b, l.ext = some b → ∀ l' ∈ [lexA, lexB], ¬ (l'.id = b.id ∧ l'.version = b.version)) ∧
    (match addResource (fun s => s) 127 Db.empty ⟨"1.1", [lexA, lexB]⟩ with
     | .ok d => d.lexicons.map (·.id) | .error _ => []) = ["a", "b"] := by
  refine ⟨⟨by decide, ?_⟩, by decide +kernel⟩
  intro l hl b hb
  simp only [List.mem_cons, List.not_mem_nil, or_false] at hl
  rcases hl with rfl | rfl <;> simp [lexA, lexB] at hb

theorem C07_base_and_extension_in_one_file_counterexample :
    (match addResource (fun s => s) 127 Db.empty ⟨"1.1", [lexA, lexX]⟩ with
     | .ok d => d.lexicons.map (·.id) | .error _ => []) = ["a"] ∧
    (match [lexA, lexX].foldlM (fun d l => addResource (fun s => s) 127 d ⟨"1.1", [l]⟩) Db.empty with
     | .ok d => d.lexicons.map (·.id) | .error _ => []) = ["a", "x"] := by
  constructor <;> decide +kernel

/-- a resource of mutually independent lexicons that was added successfully can be added again: whatever the database
held before, the second add skips every one of its lexicons and returns the database unchanged -/
theorem C07_add_again_changes_nothing (norm : String → String) (rank : Nat) (db db' : Db) (v : String) (ls : List Lexicon)
    (hd : (ls.map (·.spec)).Nodup)
    (hind : ∀ l ∈ ls, ∀ b, l.ext = some b → ∀ l' ∈ ls, ¬ (l'.id = b.id ∧ l'.version = b.version))
    (h : addResource norm rank db ⟨v, ls⟩ = .ok db') :
    addResource norm rank db' ⟨v, ls⟩ = .ok db' := by
  have hi := indep_of_independent hd hind
  rw [addResource_eq_fold_now norm rank db v ls hd (hi.imp And.left)] at h
  exact addResource_all_skipped norm rank db' v ls fun l hl =>
    (skOf_eq db' ls hd l hl).trans (fold_skipped_after norm rank ls db db' h (hi.imp And.right) l hl)

/-- non-vacuity of `C07_add_again_changes_nothing`: the resource of the example above, added to the empty database
and added again to the result -/
example : (match addResource (fun s => s) 127 Db.empty ⟨"1.1", [lexA, lexB]⟩ with
    | .ok d => (match addResource (fun s => s) 127 d ⟨"1.1", [lexA, lexB]⟩ with
        | .ok d2 => (d2.lexicons.map (·.id), d2.synsets.length, d2.lexicons.length == d.lexicons.length)
        | .error _ => ([], 0, false))
    | .error _ => ([], 0, false)) = (["a", "b"], 1, true) := by decide +kernel

end OneFileOrMany

end WnVerif.Props.C07
