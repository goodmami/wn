/-
C16 — results are a function of database content and arguments only.

A Lean function is deterministic by construction, so the content of this property is at the
places where the Python code iterates over a `set` (whose iteration order depends on the hash
seed) or hands one to SQL.  The model represents such a set by a list; the theorems say that the
result does not depend on which enumeration of the set that list is:
  * `sorted(common, key=…)` in `_shortest_hyp_paths` / `common_hypernyms` of `taxonomy.py`,
  * `sorted(…)` of a set of strings in `_export.py` (subcat ids of a sense, senses of a 1.0 frame) and
    in `_add_ili` (ILI statuses),
  * the candidate set of a lemmatizer handed to `find_entries` / `find_senses` / `find_synsets`
    as `form IN (…)`.
-/
import WnVerif.Model.Query
import WnVerif.Lemmas.ListAux
import WnVerif.Lemmas.Sorted
namespace WnVerif.Props.C16
open WnVerif.Graph WnVerif.Db

theorem sorted_unique {α} (lt : α → α → Prop) (asymm : ∀ a b, lt a b → ¬ lt b a) :
    ∀ (l l' : List α), l.Pairwise lt → l'.Pairwise lt → (∀ x, x ∈ l ↔ x ∈ l') → l = l' := by
  intro l l' hl hl' h
  -- a strict order has no repetitions, so equal members make a permutation; sorted ones are equal
  have nodup : ∀ {l : List α}, l.Pairwise lt → l.Nodup := fun hl =>
    hl.imp fun {a b} hab (e : a = b) => asymm a b hab (e ▸ hab)
  exact List.Perm.eq_of_pairwise (fun a b _ _ h1 h2 => absurd h2 (asymm a b h1)) hl hl'
    ((List.perm_ext_iff_of_nodup (nodup hl) (nodup hl')).mpr h)

theorem C16_sorted_common_oblivious (l l' : List N) (h : l.Nodup) (h' : l'.Nodup) (hm : ∀ x, x ∈ l ↔ x ∈ l') :
    sortN l = sortN l' := by
  apply sorted_unique (fun x y => nkey x < nkey y) (fun a b => Nat.lt_asymm) _ _ (sortN_sorted l h) (sortN_sorted l' h')
  intro x
  rw [mem_sortN, mem_sortN, hm x]

theorem C16_common_hypernyms_oblivious (fs fo : List (List N)) (enum : List N) (hn : enum.Nodup)
    (hm : ∀ x, x ∈ enum ↔ (x ∈ fs.flatten ∧ x ∈ fo.flatten)) : sortN enum = commonOf fs fo := by
  unfold commonOf
  apply C16_sorted_common_oblivious _ _ hn ((dedup_nodup _).sublist List.filter_sublist)
  intro x
  rw [hm x]
  simp only [List.mem_filter, mem_dedup, List.contains_iff_mem]

theorem C16_sorted_set_oblivious (l l' : List String) (hm : ∀ x, x ∈ l ↔ x ∈ l') : sortedSet l = sortedSet l' := by
  apply sorted_unique (· < ·) (fun a b h => String.lt_asymm h) _ _ (sortedSet_sorted l) (sortedSet_sorted l')
  intro x
  rw [mem_sortedSet, mem_sortedSet, hm x]

theorem formMatch_congr (db : Db) (l l' : List String) (hm : ∀ x, x ∈ l ↔ x ∈ l') (n a : Bool) (e : Nat) :
    formMatch db l n a e = formMatch db l' n a e := by
  unfold formMatch
  congr 1
  funext f
  rw [contains_congr l l' hm]
  cases f.norm with
  | none => rfl
  | some nf => simp only [contains_congr l l' hm]

theorem C16_find_entries_forms_oblivious (db : Db) (id : Option String) (l l' : List String) (hm : ∀ x, x ∈ l ↔ x ∈ l')
    (pos : Option String) (lexids : List Nat) (n a : Bool) :
    findEntries db id l pos lexids n a = findEntries db id l' pos lexids n a := by
  unfold findEntries
  simp only [isEmpty_congr l l' hm, formMatch_congr db l l' hm]

theorem C16_find_senses_forms_oblivious (db : Db) (id : Option String) (l l' : List String) (hm : ∀ x, x ∈ l ↔ x ∈ l')
    (pos : Option String) (lexids : List Nat) (n a : Bool) :
    findSenses db id l pos lexids n a = findSenses db id l' pos lexids n a := by
  unfold findSenses
  simp only [isEmpty_congr l l' hm, formMatch_congr db l l' hm]

theorem C16_find_synsets_forms_oblivious (db : Db) (id : Option String) (l l' : List String) (hm : ∀ x, x ∈ l ↔ x ∈ l')
    (pos ili : Option String) (lexids : List Nat) (n a : Bool) :
    findSynsets db id l pos ili lexids n a = findSynsets db id l' pos ili lexids n a := by
  unfold findSynsets
  simp only [isEmpty_congr l l' hm, formMatch_congr db l l' hm]

/-! ### non-vacuity -/
example : sortN [some 3, none, some 1] = sortN [some 1, some 3, none] := by decide
example : sortedSet ["b", "a", "b", "c"] = ["a", "b", "c"] := by decide

end WnVerif.Props.C16
