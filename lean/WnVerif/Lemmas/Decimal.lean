/- Decimal printing and parsing of integers (`str(int)` / `int(str)`) round-trip. -/
import WnVerif.Model.Lmf
namespace WnVerif.Lmf

theorem digitVal_digitChar : ∀ k, k < 10 → digitVal (Nat.digitChar k) = some k := by decide

theorem readNatAux_append (l r : List Char) : ∀ acc, readNatAux acc (l ++ r) = (readNatAux acc l).bind (readNatAux · r) := by
  induction l with
  | nil => intro acc; rfl
  | cons c t ih =>
    intro acc
    rw [List.cons_append, readNatAux, readNatAux]
    cases digitVal c with
    | none => rfl
    | some d => exact ih _

theorem readNatAux_digit (acc k : Nat) (h : k < 10) : readNatAux acc [Nat.digitChar k] = some (acc * 10 + k) := by
  simp only [readNatAux, digitVal_digitChar k h]

theorem readNatAux_toDigits (n : Nat) : readNatAux 0 (Nat.toDigits 10 n) = some n := by
  induction n using Nat.strongRecOn with
  | _ n ih =>
    rw [Nat.toDigits_eq_if (by decide)]
    split
    · next h => rw [readNatAux_digit 0 n h, Nat.zero_mul, Nat.zero_add]
    · next h =>
      rw [readNatAux_append, ih (n / 10) (by omega), Option.bind_some, readNatAux_digit _ _ (Nat.mod_lt n (by decide)), Nat.div_add_mod']

theorem readNat_toDigits (n : Nat) : readNat (Nat.toDigits 10 n) = some n := by
  rw [readNat, if_neg (by simp), readNatAux_toDigits]

theorem readInt_of_readNat (l : List Char) (n : Nat) (h : readNat l = some n) : readInt l = some (Int.ofNat n) := by
  unfold readInt
  split
  · -- `l = '-' :: _`: `readNat` stops at once, `digitVal '-'` being `none`
    rw [readNat, if_neg (by simp), readNatAux] at h
    cases h
  · rw [h]; rfl

theorem readInt_showInt (i : Int) : readInt (showInt i) = some i := by
  cases i with
  | ofNat n => exact readInt_of_readNat _ n (readNat_toDigits n)
  | negSucc n =>
    show readInt ('-' :: Nat.toDigits 10 (n + 1)) = _
    rw [readInt, readNat_toDigits (n + 1)]
    rfl

end WnVerif.Lmf
