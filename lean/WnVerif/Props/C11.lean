/-
C11 — `get_synset_relations`, `relation_map`, `get_related`, `closure` and `relation_paths`.

The searches of the model are bounded by a fuel.  When it runs out `closure` returns what it has
found and `relation_paths` drops the unfinished path, so soundness and duplicate-freeness hold of
whatever is returned, while completeness is proved under a hypothesis on the fuel.
-/
import WnVerif.Model.Api
import WnVerif.Lemmas.RelQuery
import WnVerif.Lemmas.Worklist
import WnVerif.Lemmas.InsertNew
namespace WnVerif.Props.C11
open WnVerif.Db

/-- a declared synset relation visible from scope `lexids`: the relation row and its target are
owned by lexicons in scope and the type passes the filter -/
def DeclaredSynRel (db : Db) (source : Nat) (types : List String) (lexids : List Nat) (r : RelData SynsetData) : Prop :=
  ∃ row ∈ db.synrels, row.source = source ∧ row.lex ∈ lexids ∧ typeOk db types row.type = some r.name ∧
    ∃ tgt, db.synsets.find? (fun x => x.rowid == row.target) = some tgt ∧ tgt.lex ∈ lexids ∧
      r.lexicon = lexSpec db row.lex ∧ r.md = row.md ∧ r.source = row.source ∧ r.target = synsetData db tgt

/-- everything `get_synset_relations` reports is declared -/
theorem C11_synset_relations_sound (db : Db) (x : Nat) (types : List String) (lexids : List Nat)
    (r : RelData SynsetData) (h : r ∈ synsetRelations db [x] types lexids) : DeclaredSynRel db x types lexids r := by
  obtain ⟨row, hrow, tgt, hs, hl, hn, ht, htl, hr⟩ := mem_synsetRelations h
  exact ⟨row, hrow, List.mem_singleton.mp hs, hl, hn, tgt, ht, htl, by rw [hr], by rw [hr], by rw [hr], by rw [hr]⟩

/-- every declared relation is reported, up to the `DISTINCT` of the query -/
theorem C11_synset_relations_complete (db : Db) (x : Nat) (types : List String) (lexids : List Nat)
    (r : RelData SynsetData) (h : DeclaredSynRel db x types lexids r) :
    ∃ r' ∈ synsetRelations db [x] types lexids,
      r'.name = r.name ∧ r'.lexicon = r.lexicon ∧ r'.md = r.md ∧ r'.source = r.source ∧ r'.target.rowid = r.target.rowid := by
  obtain ⟨row, hrow, hs, hl, hn, tgt, ht, htl, h1, h2, h3, h4⟩ := h
  obtain ⟨r', hr', e⟩ := synsetRelations_of_row hrow (List.mem_singleton.mpr hs) hl hn ht htl
  exact ⟨r', hr', by rw [h1, h2, h3, h4]; exact e⟩

/-- a reported relation's name is the stored name of the row's type, and one of the requested types
unless none or `*` was requested -/
theorem C11_types_restricted (db : Db) (types : List String) (t : Nat) (n : String) (h : typeOk db types t = some n) :
    lookupName db.reltypes t = some n ∧ (types = [] ∨ "*" ∈ types ∨ n ∈ types) := by
  unfold typeOk at h
  split at h
  · rename_i m hm
    split at h
    · rename_i hc
      cases h
      simp only [Bool.or_eq_true, List.isEmpty_iff, List.contains_iff_mem, or_assoc] at hc
      exact ⟨hm, hc⟩
    · cases h
  · cases h

theorem keys_relationMap {τ} (l : List (RelObs × τ)) :
    (relationMap l).map (fun q => relKey q.1) = (l.map (fun q => relKey q.1)).foldl insertNew [] := by
  refine keys_foldl_eq_foldl_insertNew (List.map fun q : RelObs × τ => relKey q.1) (fun p => relKey p.1) _ (fun acc p => ?_) l []
  rw [ite_any_beq acc (fun q => relKey q.1)]
  exact keys_upsert acc _ (relKey p.1) _ p (fun e => by split <;> rfl) rfl

theorem C11_relation_map_keys_nodup {τ} (l : List (RelObs × τ)) : ((relationMap l).map (fun q => relKey q.1)).Nodup :=
  keys_relationMap l ▸ nodup_foldl_insertNew _ _ List.nodup_nil

theorem C11_relation_map_keys_exact {τ} (l : List (RelObs × τ)) (k) :
    k ∈ (relationMap l).map (fun q => relKey q.1) ↔ k ∈ l.map (fun q => relKey q.1) := by
  rw [keys_relationMap, mem_foldl_insertNew]
  exact or_iff_right List.not_mem_nil

/-- relations that differ only in their dc:type have different keys, so `relation_map()` keeps both -/
theorem C11_dc_type_distinguishes (a b : RelObs) (ta tb : String) (ma mb : Doc.Meta)
    (ha : a.md = some ma) (hb : b.md = some mb)
    (hta : (ma.find? (fun kv => kv.1 == "type")).map (·.2) = some ta)
    (htb : (mb.find? (fun kv => kv.1 == "type")).map (·.2) = some tb) (hne : ta ≠ tb) :
    relKey a ≠ relKey b := by
  unfold relKey
  rw [ha, hb]
  simp only [hta, htb]
  intro h
  simp only [Prod.mk.injEq] at h
  exact hne (by simpa using h.2.2.2.2)

theorem C11_get_related_nodup (db : Db) (w : Wordnet) (x : SynsetData) (types : List String) :
    ((synsetGetRelated db w x types).map synKey).Nodup := dedupBy_nodup _ _

theorem C11_get_related_targets (db : Db) (w : Wordnet) (x : SynsetData) (types : List String) (y : SynsetData)
    (h : y ∈ synsetGetRelated db w x types) : ∃ p ∈ synsetIterRelations db w x types, p.2 = y :=
  List.mem_map.mp (mem_dedupBy _ _ y h)

/-- reachable from one of the start entities `q` (`closure` starts from the entities related to its source, so the source
itself need not be reachable; `Graph.Reach`, from one node and reflexive, is another relation) -/
inductive Reach {α} (related : α → List α) : List α → α → Prop
  | base {q x} : x ∈ q → Reach related q x
  | step {q x y} : Reach related q x → y ∈ related x → Reach related q y

theorem Reach.mono {α} {related : α → List α} {q q' : List α} (h : ∀ x ∈ q, Reach related q' x) {y : α}
    (hy : Reach related q y) : Reach related q' y := by
  induction hy with
  | base hx => exact h _ hx
  | step _ hr ih => exact Reach.step ih hr

/-- `closureGen` is the generic worklist run as a queue, its `seen` being the keys of `acc` -/
theorem closureGen_eq_run {α κ} [BEq κ] (related : α → List α) (key : α → κ) : ∀ (f : Nat) (q acc : List α),
    closureGen related key f q (acc.map key) acc = (Worklist.run (· ++ ·) related key f q acc).2.reverse := by
  intro f q acc
  fun_induction Worklist.run (· ++ ·) related key f q acc with
  | case1 q acc => cases q <;> rfl
  | case2 => rfl
  | case3 f x q acc hx ih => rw [← ih, closureGen, if_pos hx]
  | case4 f x q acc hx ih => rw [← ih, closureGen, if_neg hx]; rfl

theorem closureGen_sound_nodup {α κ} [BEq κ] [LawfulBEq κ] (related : α → List α) (key : α → κ) (start : List α) (f : Nat) :
    (∀ x ∈ closureGen related key f start [] [], Reach related start x) ∧
    ((closureGen related key f start [] []).map key).Nodup := by
  rw [show closureGen related key f start [] [] = _ from closureGen_eq_run related key f start []]
  constructor
  · intro x hx
    exact (Worklist.run_sound _ related key (fun _ _ _ => List.mem_append) (Reach related start)
      (fun _ hx _ hy => hx.step hy) f start [] (fun _ => .base) x (List.mem_reverse.mp hx)).resolve_left
      List.not_mem_nil
  · rw [List.map_reverse]
    exact List.pairwise_reverse.mpr ((Worklist.run_nodup _ related key f start [] List.nodup_nil).imp Ne.symm)

/-- `closure()` is complete given enough fuel (`Worklist.run_done` makes do with `D` per key of
`univ`).  The successors need depend on the key only among entities satisfying an invariant `P` of
the search. -/
theorem closureGen_complete_on {α κ} [BEq κ] [LawfulBEq κ] (related : α → List α) (key : α → κ)
    (P : α → Prop) (hk : ∀ a b, P a → P b → key a = key b → related a = related b)
    (hPr : ∀ x, P x → ∀ y ∈ related x, P y) (start : List α) (hPs : ∀ s ∈ start, P s) (univ : List κ) (D : Nat)
    (hD : ∀ x, (related x).length ≤ D) (hU : ∀ x, ∀ y ∈ related x, key y ∈ univ) (hS : ∀ s ∈ start, key s ∈ univ)
    (f : Nat) (hf : start.length + univ.length * (D + 1) ≤ f) (y : α) (hy : Reach related start y) :
    key y ∈ (closureGen related key f start [] []).map key := by
  have hpush : ∀ (q new : List α) v, v ∈ q ++ new ↔ v ∈ q ∨ v ∈ new := fun _ _ _ => List.mem_append
  rw [show closureGen related key f start [] [] = _ from closureGen_eq_run related key f start [],
    List.map_reverse, List.mem_reverse]
  have hdone := Worklist.run_done _ related key hpush (fun _ _ => List.length_append) (fun _ => D) hD
    f start [] univ (fun y hy => Or.inr (hy.elim (hS y) (fun ⟨x, h⟩ => hU x y h)))
    (by rw [List.map_const', List.sum_replicate_nat]
        exact Nat.le_trans (Nat.add_le_add_left (Nat.mul_le_mul_left _ (Nat.le_succ D)) _) hf)
  have hclosed := Worklist.run_closed _ related key hpush start f hdone
  have hvisited := Worklist.run_sound _ related key hpush P hPr f start [] hPs
  suffices P y ∧ key y ∈ (Worklist.run (· ++ ·) related key f start []).2.map key from this.2
  induction hy with
  | base hs => exact ⟨hPs _ hs, hclosed _ (Or.inl hs)⟩
  | @step x y _ hr ih =>
    obtain ⟨x', hx', e⟩ := List.mem_map.mp ih.2
    have hPx' := (hvisited x' hx').resolve_left List.not_mem_nil
    exact ⟨hPr x ih.1 y hr, hclosed y (Or.inr ⟨x', hx', hk x' x hPx' ih.1 e ▸ hr⟩)⟩

theorem C11_closure_sound_nodup (db : Db) (w : Wordnet) (x : SynsetData) (types : List String) (n : Nat) :
    (∀ y ∈ synsetClosure db w x types n, Reach (fun y => synsetGetRelated db w y types) (synsetGetRelated db w x types) y) ∧
    ((synsetClosure db w x types n).map synKey).Nodup :=
  closureGen_sound_nodup _ _ _ _

theorem C11_sense_closure_sound_nodup (db : Db) (w : Wordnet) (x : SenseData) (types : List String) (n : Nat) :
    (∀ y ∈ senseClosure db w x types n, Reach (fun y => senseGetRelated db w y types) (senseGetRelated db w x types) y) ∧
    ((senseClosure db w x types n).map (·.rowid)).Nodup :=
  closureGen_sound_nodup _ _ _ _

theorem synsetGetRelated_congr (db : Db) (w : Wordnet) (types : List String) (a b : SynsetData) (h : synKey a = synKey b) :
    synsetGetRelated db w a types = synsetGetRelated db w b types := by
  have h1 : a.ili = b.ili := congrArg (fun k => k.1) h
  have h2 : a.lex = b.lex := congrArg (fun k => k.2.1) h
  have h3 : a.rowid = b.rowid := congrArg (fun k => k.2.2) h
  unfold synsetGetRelated synsetIterRelations
  simp only [List.map_append, List.map_map]
  have e1 : localSynsetRelations db w a types = localSynsetRelations db w b types := by
    unfold localSynsetRelations; rw [h2, h3]
  have e2 : expandedSynsetRelations db w a types = expandedSynsetRelations db w b types := by
    unfold expandedSynsetRelations; rw [h1, h2, h3]
  rw [e1, e2]
  rfl

/-- `Synset.closure()` yields every reachable synset whenever its fuel `n * n + n + 2` covers the
bound of `closureGen_complete_on`; that it does for the `n` a caller passes is a hypothesis -/
theorem C11_closure_complete (db : Db) (w : Wordnet) (x : SynsetData) (types : List String) (n : Nat)
    (univ : List (Option String × Nat × Nat)) (D : Nat)
    (hD : ∀ y, (synsetGetRelated db w y types).length ≤ D)
    (hU : ∀ y, ∀ z ∈ synsetGetRelated db w y types, synKey z ∈ univ)
    (hf : (synsetGetRelated db w x types).length + univ.length * (D + 1) ≤ n * n + n + 2)
    (y : SynsetData) (hy : Reach (fun y => synsetGetRelated db w y types) (synsetGetRelated db w x types) y) :
    synKey y ∈ (synsetClosure db w x types n).map synKey :=
  closureGen_complete_on _ _ (fun _ => True) (fun a b _ _ => synsetGetRelated_congr db w types a b)
    (fun _ _ _ _ => trivial) _ (fun _ _ => trivial) univ D hD hU (hU x) _ hf y hy

/-- a sense record as the store holds it: its lexicon is the one of the row with its rowid -/
def SenseStored (db : Db) (s : SenseData) : Prop :=
  ∃ r, db.senses.find? (fun x => x.rowid == s.rowid) = some r ∧ r.lex = s.lex

theorem senseGetRelated_stored (db : Db) (w : Wordnet) (types : List String) (x y : SenseData)
    (h : y ∈ senseGetRelated db w x types) : SenseStored db y := by
  unfold senseGetRelated senseIterRelations at h
  have h := mem_dedupBy _ _ y h
  simp only [List.map_map, List.mem_map, Function.comp] at h
  obtain ⟨r, hr, rfl⟩ := h
  rw [senseRelations_eq] at hr
  obtain ⟨row, _, hrow⟩ := List.mem_filterMap.mp (mem_dedupBy _ _ r hr)
  obtain ⟨_, _, _, tgt, _, _, htgt, _, hd, rfl⟩ := relRow_eq_some.mp hrow
  -- the target is decoded from the row `tgt` found under `row.target`, and keeps its rowid and lexicon
  obtain ⟨_, _, _, _, rfl⟩ := senseData_eq_some hd
  have hrow' : tgt.rowid = row.target := by simpa using List.find?_some htgt
  exact ⟨tgt, by simp only [hrow']; exact htgt, rfl⟩

theorem senseGetRelated_congr (db : Db) (w : Wordnet) (types : List String) (a b : SenseData)
    (ha : SenseStored db a) (hb : SenseStored db b) (h : a.rowid = b.rowid) :
    senseGetRelated db w a types = senseGetRelated db w b types := by
  obtain ⟨ra, hra, hla⟩ := ha
  obtain ⟨rb, hrb, hlb⟩ := hb
  rw [h, hrb] at hra
  have hl : a.lex = b.lex := by
    rw [← hla, ← hlb]; injection hra with e; rw [e]
  unfold senseGetRelated senseIterRelations
  rw [h, hl]
  simp only [List.map_map]
  rfl

/-- `Sense.closure()` likewise, under the same hypothesis on the fuel -/
theorem C11_sense_closure_complete (db : Db) (w : Wordnet) (x : SenseData) (types : List String) (n : Nat)
    (univ : List Nat) (D : Nat)
    (hD : ∀ y, (senseGetRelated db w y types).length ≤ D)
    (hU : ∀ y, ∀ z ∈ senseGetRelated db w y types, z.rowid ∈ univ)
    (hf : (senseGetRelated db w x types).length + univ.length * (D + 1) ≤ n * n + n + 2)
    (y : SenseData) (hy : Reach (fun y => senseGetRelated db w y types) (senseGetRelated db w x types) y) :
    y.rowid ∈ (senseClosure db w x types n).map (·.rowid) :=
  closureGen_complete_on _ _ (SenseStored db) (senseGetRelated_congr db w types)
    (fun x _ => senseGetRelated_stored db w types x) _ (senseGetRelated_stored db w types x)
    univ D hD hU (hU x) _ hf y hy

theorem simple_cons {α κ} (key : α → κ) {t : α} {q : List α} {vis : List κ}
    (h : (q.map key).Nodup ∧ ∀ y ∈ q, key y ∉ key t :: vis) (ht : key t ∉ vis) :
    ((t :: q).map key).Nodup ∧ ∀ y ∈ t :: q, key y ∉ vis := by
  refine ⟨List.nodup_cons.mpr ⟨fun hm => ?_, h.1⟩, List.forall_mem_cons.mpr ⟨ht, fun y hy hv => h.2 y hy (List.mem_cons_of_mem _ hv)⟩⟩
  obtain ⟨y, hy, hk⟩ := List.mem_map.mp hm
  exact h.2 y hy (hk ▸ List.mem_cons_self)

theorem synPaths_simple (related : SynsetData → List SynsetData) :
    ∀ (f : Nat) (vis : List (Option String × Nat × Nat)) (x : SynsetData) (p : List SynsetData),
      p ∈ synPathsExtend related f vis x → (p.map synKey).Nodup ∧ ∀ y ∈ p, synKey y ∉ vis := by
  intro f vis x
  fun_induction synPathsExtend related f vis x with
  | case1 => intro p h; cases h
  | case2 f vis x nxt hn =>
    intro p h
    cases List.mem_singleton.mp h
    exact ⟨List.nodup_nil, nofun⟩
  | case3 f vis x nxt _ ih =>
    intro p h
    obtain ⟨t, ht, q, hq, rfl⟩ : ∃ t ∈ nxt, ∃ q ∈ synPathsExtend related f (synKey t :: vis) t, t :: q = p := by
      simpa only [List.mem_flatMap, List.mem_map] using h
    exact simple_cons synKey (ih t q hq) (by simpa using (List.mem_filter.mp ht).2)

/-- `Synset.relation_paths()`: no path visits a synset twice, and none comes back to the source -/
theorem C11_relation_paths_simple (db : Db) (w : Wordnet) (x : SynsetData) (types : List String) (n : Nat)
    (p : List SynsetData) (h : p ∈ synsetRelationPaths db w x types n) :
    (p.map synKey).Nodup ∧ ∀ y ∈ p, synKey y ≠ synKey x := by
  unfold synsetRelationPaths at h
  simp only [List.mem_flatMap, List.mem_map, List.mem_reverse, List.mem_filter] at h
  obtain ⟨t, ⟨_, htx⟩, q, hq, rfl⟩ := h
  have htx' : synKey t ∉ [synKey x] := fun e =>
    (bne_iff_ne.mp htx) (congrArg (fun k => k.2.2) (List.mem_singleton.mp e))
  obtain ⟨hnd, hvis⟩ := simple_cons synKey (synPaths_simple _ n _ t q hq) htx'
  exact ⟨hnd, fun y hy e => hvis y hy (e ▸ List.mem_singleton_self _)⟩

end WnVerif.Props.C11
