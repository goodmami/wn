/- `for … in … do` loops of the `Except` monad as monadic folds. -/
namespace WnVerif

theorem forIn_foldlM {ε α β} (f : β → α → Except ε β) : ∀ (l : List α) (init : β),
    forIn l init (fun a b => do let b' ← f b a; pure (ForInStep.yield b')) = l.foldlM f init := by
  intro l
  induction l with
  | nil => intro init; rfl
  | cons a t ih =>
    intro init
    simp only [List.forIn_cons, List.foldlM_cons, bind_assoc, pure_bind]
    congr 1
    funext b'
    exact ih b'

theorem foldlM_ok_induct {ε α β} (f : β → α → Except ε β) (P : List α → β → β → Prop)
    (hnil : ∀ b, P [] b b)
    (hcons : ∀ a t b b1 b', f b a = .ok b1 → t.foldlM f b1 = .ok b' → P t b1 b' → P (a :: t) b b') :
    ∀ (l : List α) (b b' : β), l.foldlM f b = .ok b' → P l b b' := by
  intro l
  induction l with
  | nil =>
    intro b b' h
    simp only [List.foldlM_nil, pure, Except.pure] at h
    cases h
    exact hnil b
  | cons a t ih =>
    intro b b' h
    simp only [List.foldlM_cons, bind, Except.bind] at h
    cases hf : f b a with
    | error e => rw [hf] at h; simp at h
    | ok b1 =>
      rw [hf] at h
      exact hcons a t b b1 b' hf h (ih b1 b' h)

end WnVerif
