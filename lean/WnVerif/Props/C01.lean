/-
C01 — the query API reports exactly the content of every added lexicon.

The deciding tie for this property is the full-observation correspondence (see DESIGN.md).  Proved
here, for one successful `addLexicon` on any store whose rows point at installed lexicons and whose
rowids are unique: what each insert pass writes, row by row, in terms of the document; and, query by
query, that the query restricted to the new lexicon returns the document's content in document
order.  The argument is the same each time: the table is `old ++ rows`, where `rows` mirror a list of
the document (`Forall2`); the query selects none of `old` (other lexicons) and decodes `rows` back,
ids resolving injectively because rowids are unique.  `words()` is proved for plain lexicons without
external entries; adjective positions, frames, proposed ILIs and lexfiles by correspondence only.
-/
import WnVerif.Model.Add
import WnVerif.Model.Query
import WnVerif.Gen.Schema
import WnVerif.Gen.Misc
import WnVerif.Lemmas.AddTables
import WnVerif.Lemmas.RelQuery
namespace WnVerif.Props.C01
open WnVerif WnVerif.Db WnVerif.Doc

/-! ### tie to `schema.sql`: the UNIQUE constraints of the regenerated schema, so that a change of them is noticed.
`Model/Add.lean` has an error branch for those on `lexicons`, `entries`, `forms`, `proposed_ilis` and
`syntactic_behaviours`; that these are the same constraints is seen by reading, no theorem relates the two. -/

theorem C01_gen_uniques :
    (Gen.schema.filter (fun t => !t.uniques.isEmpty)).map (fun t => (t.name, t.uniques)) =
      [("entries", [["id", "lexicon_rowid"]]), ("forms", [["entry_rowid", "form", "script"]]),
       ("ili_statuses", [["status"]]), ("ilis", [["id"]]), ("lexfiles", [["name"]]),
       ("lexicon_extensions", [["extension_rowid", "base_rowid"]]), ("lexicons", [["id", "version"]]),
       ("proposed_ilis", [["synset_rowid"]]), ("relation_types", [["type"]]),
       ("syntactic_behaviours", [["lexicon_rowid", "frame"], ["lexicon_rowid", "id"]])] := rfl

/-- the default synset rank of a sense that no `members` attribute lists (`DEFAULT_MEMBER_RANK`),
as passed to the model by the driver -/
theorem C01_gen_default_member_rank : Gen.default_member_rank = 127 := rfl

/-- the word that `find_entries` builds from an entry row and its (rank-ordered) form rows -/
def wordOf (r : REntry) (ch : List RForm) : WordData :=
  { id := r.id, pos := r.pos, forms := ch.map (fun f => ⟨f.form, f.id, f.script, f.rowid⟩), lex := r.lex, rowid := r.rowid }

/-- without id, forms and part of speech every conjunct of the `WHERE` but the lexicon filter is `true` (the same in
`findSenses_all`, `findSynsets_all`) -/
theorem findEntries_all (db : Db) (lexids : List Nat) :
    findEntries db none [] none lexids false true =
      (sortBy (·.rowid) (db.entries.filter (fun e => inLexOrAll lexids e.lex))).filterMap (fun e =>
        let fs := sortBy (·.rank) (db.forms.filter (fun f => f.entry == e.rowid))
        if fs.isEmpty then none else some (wordOf e fs)) := by
  simp [findEntries, wordOf]

/-- every word reported is an entry row of the store, with that row's id and part of speech and with
exactly the form rows stored for it, ordered by rank (that the row belongs to a selected lexicon and
has a form is in `mem_findEntries`) -/
theorem C01_words_decode (db : Db) (lexids : List Nat) (w : WordData)
    (h : w ∈ findEntries db none [] none lexids false true) :
    ∃ e ∈ db.entries, w.rowid = e.rowid ∧ w.id = e.id ∧ w.pos = e.pos ∧ w.lex = e.lex ∧
      w.forms = (sortBy (·.rank) (db.forms.filter (fun f => f.entry == e.rowid))).map (fun f => ⟨f.form, f.id, f.script, f.rowid⟩) := by
  obtain ⟨e, he, -, h⟩ := mem_findEntries h
  exact ⟨e, he, h.1, h.2.1, h.2.2.1, h.2.2.2.1, h.2.2.2.2.1⟩

/-- conversely, every entry row of a selected lexicon that has at least one form is reported -/
theorem C01_words_complete (db : Db) (lexids : List Nat) (e : REntry) (he : e ∈ db.entries)
    (hl : inLexOrAll lexids e.lex = true) (hf : ∃ f ∈ db.forms, f.entry = e.rowid) :
    ∃ w ∈ findEntries db none [] none lexids false true, w.rowid = e.rowid ∧ w.id = e.id ∧ w.pos = e.pos := by
  rw [findEntries_all]
  obtain ⟨f, hf1, hf2⟩ := hf
  have hmem : f ∈ sortBy (·.rank) (db.forms.filter (fun f => f.entry == e.rowid)) :=
    (mem_sortBy _ _ f).mpr (List.mem_filter.mpr ⟨hf1, by simpa using hf2⟩)
  refine ⟨wordOf e (sortBy (·.rank) (db.forms.filter (fun f => f.entry == e.rowid))),
    List.mem_filterMap.mpr ⟨e, (mem_sortBy _ _ e).mpr (List.mem_filter.mpr ⟨he, hl⟩), ?_⟩, rfl, rfl, rfl⟩
  rw [if_neg]
  intro hem
  rw [List.isEmpty_iff.mp hem] at hmem
  cases hmem

theorem findSenses_all (db : Db) (lexids : List Nat) :
    findSenses db none [] none lexids false true =
      (db.senses.filter (fun s => inLexOrAll lexids s.lex)).filterMap (senseData db) := by
  simp [findSenses]

/-- what `senses()` decodes: every reported sense is a sense row of a selected lexicon; its word and
synset ids are those of the entry and synset rows the sense row points at -/
theorem C01_senses_decode (db : Db) (lexids : List Nat) (s : SenseData)
    (h : s ∈ findSenses db none [] none lexids false true) :
    ∃ r ∈ db.senses, s.rowid = r.rowid ∧ s.id = r.id ∧ s.lex = r.lex ∧ inLexOrAll lexids r.lex = true ∧
      (∃ e ∈ db.entries, e.rowid = r.entry ∧ s.entryId = e.id) ∧ (∃ y ∈ db.synsets, y.rowid = r.synset ∧ s.synsetId = y.id) := by
  rw [findSenses_all] at h
  obtain ⟨r, hr, hs⟩ := List.mem_filterMap.mp h
  obtain ⟨hr, hok⟩ := List.mem_filter.mp hr
  obtain ⟨e, y, he, hy, rfl⟩ := senseData_eq_some hs
  exact ⟨r, hr, rfl, rfl, rfl, hok, ⟨e, List.mem_of_find?_eq_some he, by simpa using List.find?_some he, rfl⟩,
    ⟨y, List.mem_of_find?_eq_some hy, by simpa using List.find?_some hy, rfl⟩⟩

theorem senseData_resolve {db : Db} {r : RSense} {eid sid : String} {le ly : Nat}
    (he : entryRowE' db.entries eid le = some r.entry) (hy : synsetRowY' db.synsets sid ly = some r.synset)
    (hnE : (db.entries.map (·.rowid)).Nodup) (hnY : (db.synsets.map (·.rowid)).Nodup) :
    senseData db r = some ⟨r.id, eid, sid, r.lex, r.rowid⟩ := by
  obtain ⟨x, hx, hxi, -, hxr⟩ := rowOf_some he
  obtain ⟨y, hy', hyi, -, hyr⟩ := rowOf_some hy
  unfold senseData
  rw [← hxr, ← hyr, find?_key_eq_some REntry.rowid _ hnE x hx, find?_key_eq_some RSynset.rowid _ hnY y hy']
  simp only [hxi, hyi]

theorem findSynsets_all (db : Db) (lexids : List Nat) :
    findSynsets db none [] none none lexids false true =
      (db.synsets.filter (fun ss => inLexOrAll lexids ss.lex)).map (synsetData db) := by
  simp [findSynsets]

/-- what `synsets()` decodes: every reported synset is a synset row of a selected lexicon with that
row's id and part of speech, and its ILI is the id of the ILI row the synset row links to -/
theorem C01_synsets_decode (db : Db) (lexids : List Nat) (y : SynsetData)
    (h : y ∈ findSynsets db none [] none none lexids false true) :
    ∃ r ∈ db.synsets, y.rowid = r.rowid ∧ y.id = r.id ∧ y.pos = r.pos ∧ y.lex = r.lex ∧ y.ili = iliIdOf db r.ili ∧
      inLexOrAll lexids r.lex = true := by
  rw [findSynsets_all] at h
  obtain ⟨r, hr, rfl⟩ := List.mem_map.mp h
  obtain ⟨hr, hok⟩ := List.mem_filter.mp hr
  exact ⟨r, hr, rfl, rfl, rfl, rfl, rfl, hok⟩

theorem C01_synsets_complete (db : Db) (lexids : List Nat) (r : RSynset) (hr : r ∈ db.synsets)
    (hl : inLexOrAll lexids r.lex = true) : synsetData db r ∈ findSynsets db none [] none none lexids false true := by
  rw [findSynsets_all]
  exact List.mem_map.mpr ⟨r, List.mem_filter.mpr ⟨hr, hl⟩, rfl⟩

/-- `_insert_lexicon`: the lexicon row carries exactly the document's attributes and metadata, gets a fresh rowid,
and the rows of the lexicons already installed are not touched -/
theorem C01_lexicon_row (db db' : Db) (l : Lexicon) (lexid extid : Nat)
    (h : insertLexicon db l = .ok (db', lexid, extid)) :
    db'.lexicons = db.lexicons ++ [⟨lexid, l.id, l.label, l.language, l.email, l.license, l.version, l.url, l.citation, l.logo, l.md⟩] ∧ lexid ∉ db.lexicons.map (·.rowid) ∧ lexiconRow db l.id l.version = none := by
  obtain ⟨hnew, rfl, _, rfl, -, rfl⟩ := insertLexicon_ok h
  exact ⟨rfl, nextId_not_mem _, hnew⟩

/-- declared dependencies are recorded with id, version and url (the link to an installed provider
is in `insertLexicon_ok`) -/
theorem C01_dependencies_recorded (db db' : Db) (l : Lexicon) (lexid extid : Nat)
    (h : insertLexicon db l = .ok (db', lexid, extid)) (d : Dep) (hd : d ∈ l.requires) :
    ∃ r ∈ db'.deps, r.dependent = lexid ∧ r.pid = d.id ∧ r.pver = d.version ∧ r.purl = d.url := by
  obtain ⟨-, -, _, -, -, rfl⟩ := insertLexicon_ok h
  exact ⟨_, List.mem_append_right _ (List.mem_map.mpr ⟨d, hd, rfl⟩), rfl, rfl, rfl, rfl⟩

theorem insertLexicon_frame (db db' : Db) (l : Lexicon) (lexid extid : Nat)
    (h : insertLexicon db l = .ok (db', lexid, extid)) :
    db'.entries = db.entries ∧ db'.forms = db.forms ∧ lexid = nextId (db.lexicons.map (·.rowid)) ∧
    (l.ext = none → extid = lexid) := by
  obtain ⟨-, hl, _, rfl, hx, rfl⟩ := insertLexicon_ok h
  exact ⟨rfl, rfl, hl, fun hn => by rw [hn] at hx; exact hx⟩

theorem insertLexicon_frame2 (db db' : Db) (l : Lexicon) (lexid extid : Nat)
    (h : insertLexicon db l = .ok (db', lexid, extid)) :
    db'.senses = db.senses ∧ db'.synsets = db.synsets ∧ db'.entries = db.entries := by
  obtain ⟨_, _, _, rfl⟩ := insertLexicon_writes h
  exact ⟨rfl, rfl, rfl⟩

def EntryRowOf (c : Ctx) (e : Entry) (r : REntry) : Prop :=
  r.id = e.id ∧ r.lex = c.lexid ∧ r.md = e.md ∧ ∃ lem, e.lemma = some lem ∧ r.pos = lem.pos

/-- `Db.entryStep_ok` read with `EntryRowOf`: the new row as a variable, its rowid fresh -/
theorem entryStep_ok (c : Ctx) (db db1 : Db) (e : Entry) (h : entryStep c db e = .ok db1) :
    ∃ r, db1 = { db with entries := db.entries ++ [r] } ∧ EntryRowOf c e r ∧ r.rowid ∉ db.entries.map (·.rowid) ∧
      entryRow db e.id c.lexid = none := by
  obtain ⟨lem, hl, hnone, rfl⟩ := Db.entryStep_ok h
  exact ⟨_, rfl, ⟨rfl, rfl, rfl, lem, hl, rfl⟩, nextId_not_mem _, hnone⟩

/-- `_insert_entries`: one row per non-external entry, in document order, with the entry's id,
the lemma's part of speech and the entry's metadata, owned by the new lexicon; nothing else in the
database changes (`Db.insertEntries_rows` says more: the rowids are fresh and increase) -/
theorem C01_entries_rows (db db' : Db) (l : Lexicon) (c : Ctx) (h : insertEntries db l c = .ok db') :
    ∃ rows, db' = { db with entries := db.entries ++ rows } ∧ Forall2 (EntryRowOf c) (localEntries l) rows :=
  have ⟨rows, e, hr⟩ := insertEntries_rows _ _ _ h
  ⟨rows, e, hr.rows⟩

/-- entry ids stay unique within the lexicon: a repeated id makes the whole add fail -/
theorem C01_duplicate_entry_id_rejected (c : Ctx) (db : Db) (e : Entry) (k : Nat) (h : entryRow db e.id c.lexid = some k) :
    ∃ m, entryStep c db e = .error m := by
  cases hs : entryStep c db e with
  | error m => exact ⟨m, rfl⟩
  | ok b' =>
    obtain ⟨_, -, hnone, -⟩ := Db.entryStep_ok hs
    rw [h] at hnone
    cases hnone

/-- the row written for the `i`-th further form of an entry -/
def FormRowOf (norm : String → String) (c : Ctx) (er : Nat) (fi : Form × Nat) (r : RForm) : Prop :=
  r.lex = c.lexid ∧ r.entry = er ∧ r.id = fi.1.id ∧ r.form = fi.1.form ∧ r.script = fi.1.script ∧ r.rank = fi.2 + 1 ∧
  r.norm = (if norm fi.1.form != fi.1.form then some (norm fi.1.form) else none)

theorem addForm_row {b b' : Db} {norm : String → String} {lexid er : Nat} {id : Option String} {form : String}
    {script : Option String} {rank : Nat} (h : addForm b norm lexid er id form script rank = .ok b') :
    ∃ r, b' = { b with forms := b.forms ++ [r] } ∧ r.lex = lexid ∧ r.entry = er ∧ r.id = id ∧ r.form = form ∧
      r.script = script ∧ r.rank = rank ∧ r.norm = (if norm form != form then some (norm form) else none) :=
  ⟨_, Db.addForm_ok h, rfl, rfl, rfl, rfl, rfl, rfl, rfl⟩

/-- `_insert_forms`, further forms of one entry: exactly one row per non-external `<Form>`, in document order, whose
rank is its position + 1 and whose text, script and id are the document's (no character altered);
the normalized column holds the normalizer's output when it differs; nothing else changes -/
theorem C01_form_rows (norm : String → String) (c : Ctx) (e : Entry) :
    ∀ (fis : List (Form × Nat)) (db db' : Db), fis.foldlM (formStep norm c e) db = .ok db' →
      ∃ rows, db' = { db with forms := db.forms ++ rows } ∧
        ∃ er, (fis.filter (fun fi => !fi.1.external) ≠ [] → entryRow db e.id (c.lid e.id) = some er) ∧
          Forall2 (FormRowOf norm c er) (fis.filter (fun fi => !fi.1.external)) rows := by
  refine foldlM_ok_induct (formStep norm c e) _ (fun b => ⟨[], by simp, 0, by simp, .nil⟩) ?_
  rintro a t b b1 b' hf - ⟨rows, hb', er', her', hrows⟩
  rcases Db.formStep_ok hf with ⟨hx, rfl⟩ | ⟨hx, er, her, ha⟩
  · rw [List.filter_cons_of_neg (by simp [hx])]
    exact ⟨rows, hb', er', her', hrows⟩
  · obtain ⟨r, rfl, hr⟩ := addForm_row ha
    rw [List.filter_cons_of_pos (by simp [hx])]
    -- the later steps looked the entry up in a store whose `entries` table is that of `b`
    exact ⟨r :: rows, by rw [hb']; simp, er, fun _ => her,
      .cons hr (Forall2.param_of_ne_nil (fun hne => Option.some.inj ((her' hne).symm.trans her)) hrows)⟩

/-- the form rows written for one non-external entry, relative to a fixed `entries` table: the lemma row, then the
rows of its further forms -/
def ChunkOf (norm : String → String) (c : Ctx) (E : List REntry) (e : Entry) (ch : List RForm) : Prop :=
  ∃ lem er lr rows, e.lemma = some lem ∧ entryRowE' E e.id (c.lid e.id) = some er ∧ ch = lr :: rows ∧
    lr.form = lem.form ∧ lr.script = lem.script ∧ lr.rank = 0 ∧ lr.entry = er ∧ lr.lex = c.lexid ∧ lr.id = none ∧
    Forall2 (FormRowOf norm c er) (e.forms.zipIdx.filter (fun fi => !fi.1.external)) rows

theorem entryFormsStep_chunk {norm : String → String} {c : Ctx} {db db' : Db} {e : Entry}
    (h : entryFormsStep norm c db e = .ok db') :
    ∃ ch, db' = { db with forms := db.forms ++ ch } ∧ (e.external = false → ChunkOf norm c db.entries e ch) := by
  obtain ⟨b1, h2, h1⟩ := Db.entryFormsStep_ok h
  obtain ⟨rows, rfl, er', her', hrows⟩ := C01_form_rows norm c e _ _ db' h2
  rcases h1 with ⟨hx, rfl⟩ | ⟨-, lem, er, hl, he, ha⟩
  · exact ⟨rows, rfl, fun hx' => nomatch hx.symm.trans hx'⟩
  · obtain ⟨lr, rfl, a1, a2, a3, a4, a5, a6, -⟩ := addForm_row ha
    exact ⟨lr :: rows, by simp, fun _ => ⟨lem, er, lr, rows, hl, he, rfl, a4, a5, a6, a2, a1, a3,
      Forall2.param_of_ne_nil (fun hne => Option.some.inj ((her' hne).symm.trans he)) hrows⟩⟩

/-- `_insert_forms`, one non-external entry: the lemma at rank 0 (written form and script of `<Lemma>`),
then its further forms at ranks 1, 2, … in document order -/
theorem C01_entry_forms (norm : String → String) (c : Ctx) (db db' : Db) (e : Entry)
    (h : entryFormsStep norm c db e = .ok db') (hx : e.external = false) :
    ∃ lem er lr rows, e.lemma = some lem ∧ entryRow db e.id (c.lid e.id) = some er ∧
      db' = { db with forms := db.forms ++ lr :: rows } ∧
      lr.form = lem.form ∧ lr.script = lem.script ∧ lr.rank = 0 ∧ lr.entry = er ∧ lr.lex = c.lexid ∧ lr.id = none ∧
      Forall2 (FormRowOf norm c er) (e.forms.zipIdx.filter (fun fi => !fi.1.external)) rows := by
  obtain ⟨ch, rfl, hch⟩ := entryFormsStep_chunk h
  obtain ⟨lem, er, lr, rows, hl, he, rfl, a⟩ := hch hx
  exact ⟨lem, er, lr, rows, hl, he, rfl, a⟩

/-- `hx` is not used: no step of `_insert_forms` touches `entries`, for an external entry or not -/
theorem entryFormsStep_entries (norm : String → String) (c : Ctx) (db db' : Db) (e : Entry)
    (h : entryFormsStep norm c db e = .ok db') (hx : e.external = false) : db'.entries = db.entries := by
  obtain ⟨_, rfl, -⟩ := entryFormsStep_chunk h
  rfl

theorem insertForms_chunks {norm : String → String} {c : Ctx} {es : List Entry} {d d' : Db}
    (h : es.foldlM (entryFormsStep norm c) d = .ok d') :
    ∃ chunks, d'.forms = d.forms ++ chunks.flatten ∧
      Forall2 (fun e ch => e.external = false → ChunkOf norm c d.entries e ch) es chunks :=
  (foldlM_rowsL (fun b => b.forms) (fun b => b.entries) (entryFormsStep norm c)
    (fun E e ch => e.external = false → ChunkOf norm c E e ch)
    (fun _ _ _ hs => by
      obtain ⟨ch, rfl, hch⟩ := entryFormsStep_chunk hs
      exact ⟨rfl, ch, rfl, hch⟩) es d d' h).2

/-- the row written for the `i`-th local sense of an entry -/
def SenseRowOf (l : Lexicon) (c : Ctx) (dr : Nat) (db : Db) (e : Entry) (si : Sense × Nat) (r : RSense) : Prop :=
  r.id = si.1.id ∧ r.lex = c.lexid ∧ r.md = si.1.md ∧ r.lexicalized = si.1.lexicalized.getD true ∧ r.erank = si.2 ∧
  r.srank = memberRank l dr si.1.id ∧ entryRow db e.id (c.lid e.id) = some r.entry ∧
  synsetRow db si.1.synset (c.lid si.1.synset) = some r.synset

/-- `_insert_senses`, senses of one entry: one row per non-external sense in entry order (rank = position), pointing
at the entry row and at the synset row that the document's ids resolve to, with the sense's id,
lexicalized flag (default true) and metadata; only the senses table changes -/
theorem C01_sense_rows (l : Lexicon) (c : Ctx) (dr : Nat) (e : Entry) :
    ∀ (sis : List (Sense × Nat)) (db db' : Db), sis.foldlM (senseStep l c dr e) db = .ok db' →
      ∃ rows, db' = { db with senses := db.senses ++ rows } ∧ Forall2 (SenseRowOf l c dr db e) sis rows :=
  -- the frame is the store with its `senses` table emptied: the look-ups of a step read only the other tables, which
  -- no step changes, so every row is described relative to the initial store
  fun _ _ _ => foldlM_writes_rows1 (fun b => b.senses) (fun b S => { b with senses := S }) (fun b => ({ b with senses := [] } : Db))
    (Rel := fun fr si r => SenseRowOf l c dr fr e si r)
    (fun b si b' hs => by
      obtain ⟨_, _, he, hy, rfl⟩ := Db.senseStep_ok hs
      exact ⟨_, rfl, rfl, rfl, rfl, rfl, rfl, rfl, he, hy⟩)

theorem senseStep_tables (l : Lexicon) (c : Ctx) (dr : Nat) (e : Entry) (db db1 : Db) (si : Sense × Nat)
    (h : senseStep l c dr e db si = .ok db1) : db1.entries = db.entries ∧ db1.synsets = db.synsets := by
  obtain ⟨_, _, -, -, rfl⟩ := Db.senseStep_ok h
  exact ⟨rfl, rfl⟩

/-- the row written for a document synset; `ili` is the rowid of the first ILI row carrying the
document's ILI id (none for "" / "in") -/
def SynsetRowOf (c : Ctx) (dbIlis : List RIli) (ss : Synset) (r : RSynset) : Prop :=
  r.id = ss.id ∧ r.lex = c.lexid ∧ r.md = ss.md ∧ r.lexicalized = ss.lexicalized.getD true ∧
  (∃ p, ss.pos = some p ∧ r.pos = p) ∧
  r.ili = if ss.ili != "" && ss.ili != "in" then (dbIlis.find? (fun x => x.id == ss.ili)).map (·.rowid) else none

/-- second pass of `_insert_synsets`: one row per non-external synset, in document order, with the
synset's id, part of speech, lexicalized flag (default true), metadata and ILI link; only the
synsets table changes -/
theorem C01_synset_rows {c : Ctx} {ss : List Synset} {db db' : Db} (h : ss.foldlM (synsetStep c) db = .ok db') :
    ∃ rows, db' = { db with synsets := db.synsets ++ rows } ∧ Forall2 (SynsetRowOf c db.ilis) ss rows :=
  foldlM_writes_rows1 (fun b => b.synsets) (fun b Y => { b with synsets := Y }) (fun b => b.ilis)
    (Rel := fun I ss r => SynsetRowOf c I ss r)
    (fun b ss b' hs => by
      obtain ⟨p, hp, rfl⟩ := Db.synsetStep_ok hs
      exact ⟨_, rfl, rfl, rfl, rfl, rfl, ⟨p, hp, rfl⟩, rfl⟩) h

/-- first pass of `_insert_synsets`: every ILI id named by a synset has an ILI row afterwards, existing ILI rows are
never modified (`INSERT OR IGNORE`), and nothing but the `ilis` table changes -/
theorem C01_presupposed_ilis (presup : Nat) (ss : List Synset) (db db' : Db) (h : ss.foldlM (presupStep presup) db = .ok db') :
    (∃ extra, db' = { db with ilis := db.ilis ++ extra }) ∧
    ∀ s ∈ ss, (s.ili != "" && s.ili != "in") = true → ∃ x ∈ db'.ilis, x.id = s.ili := by
  revert ss db db'
  refine foldlM_ok_induct (presupStep presup) _ (fun b => ⟨⟨[], by simp⟩, by simp⟩) ?_
  rintro a t b b1 b' hf - ⟨⟨e2, rfl⟩, h4⟩
  -- the ILI of the head is there already, or its row is the first of the new ones
  rcases Db.presupStep_ok hf with ⟨rfl, h2⟩ | ⟨-, rfl⟩
  · refine ⟨⟨e2, rfl⟩, List.forall_mem_cons.mpr ⟨fun hc => ?_, h4⟩⟩
    obtain ⟨x, hx, hxi⟩ := h2 hc
    exact ⟨x, List.mem_append_left _ hx, hxi⟩
  · exact ⟨⟨_, congrArg (fun I => ({ b with ilis := I } : Db)) (List.append_assoc b.ilis [_] e2)⟩,
      List.forall_mem_cons.mpr
        ⟨fun _ => ⟨_, List.mem_append_left _ (List.mem_append_right _ (List.mem_singleton_self _)), rfl⟩, h4⟩⟩

theorem insertSynsets_table {b b' : Db} {l : Lexicon} {c : Ctx} (h : insertSynsets b l c = .ok b') :
    ∃ rows extra, b'.synsets = b.synsets ++ rows ∧ b'.ilis = b.ilis ++ extra ∧
      Forall2 (fun ss r => SynsetRowOf c b'.ilis ss r ∧
        ((ss.ili != "" && ss.ili != "in") = true → ∃ x ∈ b'.ilis, x.id = ss.ili)) (localSynsets l) rows ∧
      ((b.ilis.map (·.rowid)).Nodup → (b'.ilis.map (·.rowid)).Nodup) := by
  obtain ⟨presup, I, Y, P, -, h1, h2, -, rfl⟩ := insertSynsets_split h
  obtain ⟨⟨extra, he⟩, hpres⟩ := C01_presupposed_ilis _ _ _ _ h1
  obtain ⟨rows, hr, hF⟩ := C01_synset_rows h2
  refine ⟨rows, extra, (congrArg Db.synsets hr :), (congrArg Db.ilis he :), Forall2.and_forall_left hF hpres, fun hn => ?_⟩
  exact foldlM_inv (fun d => (d.ilis.map (·.rowid)).Nodup) (fun b ss b' hs hb => by
    rcases Db.presupStep_ok hs with ⟨rfl, -⟩ | ⟨-, rfl⟩
    · exact hb
    · exact nodup_append_nextId (fun r : RIli => r.rowid) _ _ rfl hb) h1 hn

/-- after `_insert_synsets`, every non-external synset of the document has a synset row of the new lexicon with its
id, part of speech, lexicalized flag and metadata, and — when the document gives it an ILI id — the row's ILI link
resolves back to exactly that id through the `ilis` table (as `Synset.ili` does) -/
theorem C01_synsets_after_insert (db db' : Db) (l : Lexicon) (c : Ctx) (h : insertSynsets db l c = .ok db')
    (hn : (db.ilis.map (·.rowid)).Nodup) (ss : Synset) (hs : ss ∈ localSynsets l) :
    ∃ r ∈ db'.synsets, r.id = ss.id ∧ r.lex = c.lexid ∧ r.md = ss.md ∧ r.lexicalized = ss.lexicalized.getD true ∧
      (∃ p, ss.pos = some p ∧ r.pos = p) ∧
      ((ss.ili != "" && ss.ili != "in") = true → iliIdOf db' r.ili = some ss.ili) ∧
      ((ss.ili != "" && ss.ili != "in") = false → r.ili = none) := by
  obtain ⟨rows, -, hY, -, hF, hnod⟩ := insertSynsets_table h
  obtain ⟨r, hr, ⟨e1, e2, e3, e4, e5, e6⟩, hp⟩ := hF.exists_of_mem_left ss hs
  refine ⟨r, hY ▸ List.mem_append_right _ hr, e1, e2, e3, e4, e5, fun hc => ?_, fun hc => ?_⟩
  · rw [e6, if_pos hc]
    exact iliIdOf_find db' (hnod hn) _ (hp hc)
  · rw [e6, hc]; rfl

theorem insertSynsets_rows (db db' : Db) (l : Lexicon) (c : Ctx) (h : insertSynsets db l c = .ok db')
    (hn : (db.ilis.map (·.rowid)).Nodup) :
    ∃ rows, db'.synsets = db.synsets ++ rows ∧
      Forall2 (fun ss r => r.id = ss.id ∧ r.lex = c.lexid ∧ (∃ p, ss.pos = some p ∧ r.pos = p) ∧
        iliIdOf db' r.ili = (if (ss.ili != "" && ss.ili != "in") then some ss.ili else none)) (localSynsets l) rows := by
  obtain ⟨rows, -, hY, -, hF, hnod⟩ := insertSynsets_table h
  refine ⟨rows, hY, hF.imp ?_⟩
  rintro ss r ⟨⟨e1, e2, -, -, e5, e6⟩, hp⟩
  refine ⟨e1, e2, e5, ?_⟩
  rw [e6]
  split
  · exact iliIdOf_find db' (hnod hn) _ (hp ‹_›)
  · rfl

theorem addLexicon_words_tables (norm : String → String) (dr : Nat) (db db' : Db) (l : Lexicon)
    (h : addLexicon norm dr db l = .ok db') (hext : l.ext = none) (hx : ∀ e ∈ l.entries, e.external = false) :
    ∃ (c : Ctx) (rows : List REntry) (chunks : List (List RForm)),
      c.lexid = nextId (db.lexicons.map (·.rowid)) ∧ c.extid = c.lexid ∧
      db'.entries = db.entries ++ rows ∧ EntryRows c db.entries l.entries rows ∧
      db'.forms = db.forms ++ chunks.flatten ∧ Forall2 (ChunkOf norm c (db.entries ++ rows)) l.entries chunks := by
  obtain ⟨t⟩ := addLexicon_split norm dr db db' l h
  have hloc : localEntries l = l.entries := List.filter_eq_self.mpr (fun e he => by simp [hx e he])
  have hent : (localEntries l).foldlM (entryStep t.ctx) (stage2 db db' l) = .ok (stage3 db db' l) := t.ent
  obtain ⟨rows, hd3, hrows⟩ := insertEntries_rows (c := t.ctx) l.entries _ _ (hloc ▸ hent)
  obtain ⟨chunks, hd4, hch⟩ := insertForms_chunks t.form
  have hE : db'.entries = db.entries ++ rows := (congrArg Db.entries hd3 :)
  exact ⟨t.ctx, rows, chunks, t.lexid_eq, t.extid_plain hext, hE, hrows, hd4,
    hE ▸ (Forall2.and_forall_left hch hx).imp fun _ _ h => h.1 h.2⟩

theorem addLexicon_synset_tables (norm : String → String) (dr : Nat) (db db' : Db) (l : Lexicon)
    (h : addLexicon norm dr db l = .ok db') :
    ∃ (rows : List RSynset) (extra : List RIli), db'.synsets = db.synsets ++ rows ∧
      (∀ r ∈ rows, r.lex = nextId (db.lexicons.map (·.rowid))) ∧ db'.ilis = db.ilis ++ extra := by
  obtain ⟨t⟩ := addLexicon_split norm dr db db' l h
  obtain ⟨rows, extra, hY, hI, hF, -⟩ := insertSynsets_table t.syn
  exact ⟨rows, extra, hY, fun r hr => (Forall2.exists_of_mem_right hF r hr).elim fun _ h => h.2.1.2.1.trans t.lexid_eq, hI⟩

theorem addLexicon_sense_ranks {norm : String → String} {dr : Nat} {db db' : Db} {l : Lexicon}
    (t : AddTrace norm dr db db' l) :
    ∃ rows, db'.senses = db.senses ++ rows ∧
      Forall2 (fun (p : Entry × (Sense × Nat)) (row : RSense) => row.srank = memberRank l dr p.2.1.id ∧ row.id = p.2.1.id) (sensePairs l) rows := by
  obtain ⟨-, -, rows, hrows, hF, -⟩ := addLexicon_sense_rows t
  exact ⟨rows, hrows, hF.imp fun _ _ h => ⟨h.2, h.1.1⟩⟩

def formLikePairs (l : Lexicon) : List (Entry × (Option String × Option Nat × List Pron × List Tag)) :=
  l.entries.flatMap (fun e => (formLikes e).map (fun fl => (e, fl)))

/-- a form-like element as `formLikes` lists it: (form id, rank, pronunciations, tags) -/
abbrev FL := Option String × Option Nat × List Pron × List Tag

/-- the document's tags, resp. pronunciations, each with the entry and form-like element it stands under, in the
order `_insert_tags` / `_insert_pronunciations` writes them -/
def tagPairs (l : Lexicon) : List ((Entry × FL) × Tag) :=
  l.entries.flatMap (fun e => (formLikes e).flatMap (fun fl => fl.2.2.2.map (fun t => ((e, fl), t))))

def pronPairs (l : Lexicon) : List ((Entry × FL) × Pron) :=
  l.entries.flatMap (fun e => (formLikes e).flatMap (fun fl => fl.2.2.1.map (fun t => ((e, fl), t))))

/-- `FORM_QUERY`, on fixed `entries` / `forms` tables -/
def formRowEF (fr : List REntry × List RForm) (eid : String) (lex : Nat) (fid : Option String) (rank : Option Nat) : Option Nat :=
  match fr.1.find? (fun r => r.id == eid && r.lex == lex) with
  | none => none
  | some e =>
    (fr.2.find? (fun f => f.entry == e.rowid &&
      ((match fid, f.id with | some a, some b => a == b | _, _ => false) ||
       (match rank with | some k => f.rank == k | none => false)))).map (·.rowid)

theorem formRow_eq (db : Db) (eid : String) (lex : Nat) (fid : Option String) (rank : Option Nat) :
    formRow db eid lex fid rank = formRowEF (db.entries, db.forms) eid lex fid rank := rfl

/-- the row written for a tag, resp. pronunciation, of the form-like element `p.2` of entry `p.1`: it hangs on the
form row that `FORM_QUERY` finds for the element's (id, rank) -/
def TagRowOf (c : Ctx) (fr : List REntry × List RForm) (p : Entry × FL) (t : Tag) (row : RTag) : Prop :=
  formRowEF fr p.1.id (c.lid p.1.id) p.2.1 p.2.2.1 = some row.form ∧ row.tag = t.text ∧ row.category = t.category

def PronRowOf (c : Ctx) (fr : List REntry × List RForm) (p : Entry × FL) (t : Pron) (row : RPron) : Prop :=
  formRowEF fr p.1.id (c.lid p.1.id) p.2.1 p.2.2.1 = some row.form ∧
  (row.value, row.variety, row.notat, row.phonemic, row.audio) = (t.text, t.variety, t.notat, boolOr t.phonemic true, t.audio)

theorem addLexicon_tags_prons_tables {norm : String → String} {dr : Nat} {db db' : Db} {l : Lexicon}
    (t : AddTrace norm dr db db' l) :
    (∃ rows, db'.tags = db.tags ++ rows ∧
      Forall2 (fun (q : (Entry × FL) × Tag) row => TagRowOf t.ctx (db'.entries, db'.forms) q.1 q.2 row) (tagPairs l) rows) ∧
    (∃ rows, db'.prons = db.prons ++ rows ∧
      Forall2 (fun (q : (Entry × FL) × Pron) row => PronRowOf t.ctx (db'.entries, db'.forms) q.1 q.2 row) (pronPairs l) rows) := by
  obtain ⟨P, _, h1, h2, e5⟩ := Db.insertPronsTags_split t.pt
  obtain rfl : P = db'.prons := (congrArg Db.prons e5 :).symm
  obtain ⟨-, rows1, hr1, hF1⟩ := foldlM_rows1 (fun d => d.prons) (fun d => (d.entries, d.forms)) _
    (fun fr (q : (Entry × FL) × Pron) row => PronRowOf t.ctx fr q.1 q.2 row)
    (fun b q b' hh => by
      obtain ⟨_, hf, rfl⟩ := Db.pronStep_ok hh
      exact ⟨rfl, _, rfl, hf, rfl⟩) _ _ _ h1
  obtain ⟨-, rows2, hr2, hF2⟩ := foldlM_rows1 (fun d => d.tags) (fun d => (d.entries, d.forms)) _
    (fun fr (q : (Entry × FL) × Tag) row => TagRowOf t.ctx fr q.1 q.2 row)
    (fun b q b' hh => by
      obtain ⟨_, hf, rfl⟩ := Db.tagStep_ok hh
      exact ⟨rfl, _, rfl, hf, rfl, rfl⟩) _ _ _ h2
  exact ⟨⟨rows2, hr2, hF2⟩, ⟨rows1, hr1, hF1⟩⟩

theorem findEntries_of_tables {db' : Db} {Eold rows : List REntry} {Fold : List RForm} {chunks : List (List RForm)} {lexid : Nat}
    (hE : db'.entries = Eold ++ rows) (hF : db'.forms = Fold ++ chunks.flatten)
    (hold : ∀ o ∈ Eold, o.lex ≠ lexid) (hrl : ∀ r ∈ rows, r.lex = lexid)
    (hincr : rows.Pairwise (fun a b => a.rowid < b.rowid))
    (hFold : ∀ f ∈ Fold, ∀ r ∈ rows, f.entry ≠ r.rowid)
    (hch : Forall2 (fun r ch => (∀ f ∈ ch, f.entry = r.rowid) ∧ ch ≠ [] ∧ ch.Pairwise (fun a b => a.rank ≤ b.rank)) rows chunks) :
    findEntries db' none [] none [lexid] false true = (rows.zip chunks).map (fun p => wordOf p.1 p.2) := by
  rw [findEntries_all, hE, filter_lex_append REntry.lex hold hrl,
    sortBy_of_sorted (fun x : REntry => x.rowid) rows (hincr.imp Nat.le_of_lt)]
  have hpick := Forall2.filter_flatten (fun r : REntry => r.rowid) (fun f : RForm => f.entry) (hch.imp fun _ _ h => h.1)
    Fold (hincr.imp Nat.ne_of_lt) hFold
  refine Forall2.filterMap_zip _ wordOf (fun r ch hr => ?_) (Forall2.and hch hpick)
  obtain ⟨⟨-, hne, hs⟩, hp⟩ := hr
  have hp' : db'.forms.filter (fun f => f.entry == r.rowid) = ch := hF ▸ hp
  simp only [hp', sortBy_of_sorted (fun x : RForm => x.rank) ch hs]
  cases ch with
  | nil => exact absurd rfl hne
  | cons _ _ => rfl

/-- what `words()` is specified to report of one entry of the document: id, part of speech of the lemma, then the
lemma and the further (non-external) forms in document order, each with its written form, id and script -/
def docWord (e : Entry) : String × String × List (String × Option String × Option String) :=
  (e.id, (e.lemma.map (·.pos)).getD "",
   (match e.lemma with | some lem => [(lem.form, none, lem.script)] | none => []) ++
   (e.forms.filter (fun f => !f.external)).map (fun f => (f.form, f.id, f.script)))

def obsWord (w : WordData) : String × String × List (String × Option String × Option String) :=
  (w.id, w.pos, w.forms.map (fun f => (f.form, f.id, f.script)))

theorem ChunkOf.shape {norm : String → String} {c : Ctx} {E : List REntry} {e : Entry} {ch : List RForm}
    (h : ChunkOf norm c E e ch) :
    (∀ f ∈ ch, entryRowE' E e.id (c.lid e.id) = some f.entry) ∧ ch ≠ [] ∧ ch.Pairwise (fun a b => a.rank ≤ b.rank) := by
  obtain ⟨lem, er, lr, rows, -, he, rfl, -, -, h0, hle, -, -, hF⟩ := h
  refine ⟨fun f hf => ?_, List.cons_ne_nil _ _, List.pairwise_cons.mpr ⟨fun f _ => h0 ▸ Nat.zero_le _, ?_⟩⟩
  · rcases List.mem_cons.mp hf with rfl | hf
    · rw [hle, he]
    · obtain ⟨_, -, hfi⟩ := Forall2.exists_of_mem_right hF f hf
      rw [hfi.2.1, he]
  · -- the rank of a further form is its position + 1
    exact Forall2.pairwise (S := fun a b => a.2 < b.2) (T := fun a b => a.rank ≤ b.rank)
      (fun a b a' b' hab hab' hlt => by rw [hab.2.2.2.2.2.1, hab'.2.2.2.2.2.1]; omega) hF
      ((zipIdx_pairwise _ 0).1.sublist List.filter_sublist)

theorem ChunkOf.obs {norm : String → String} {c : Ctx} {E : List REntry} {e : Entry} {ch : List RForm}
    (h : ChunkOf norm c E e ch) : ch.map (fun f => (f.form, f.id, f.script)) = (docWord e).2.2 := by
  obtain ⟨lem, er, lr, rows, hl, -, rfl, a4, a5, -, -, -, a9, hF⟩ := h
  rw [docWord, hl, List.map_cons, a4, a5, a9,
    Forall2.map_eq (fun f : RForm => (f.form, f.id, f.script)) (fun fi : Form × Nat => (fi.1.form, fi.1.id, fi.1.script))
      (fun _ _ hab => by rw [hab.2.2.2.1, hab.2.2.1, hab.2.2.2.2.1]) hF,
    ← zipIdx_filter_fst (fun f : Form => !f.external) e.forms 0, List.map_map]
  rfl

/-- `words()` of the new lexicon (plain, no external entries) with the rows and chunks behind it -/
theorem words_eval (norm : String → String) (dr : Nat) (db db' : Db) (l : Lexicon)
    (h : addLexicon norm dr db l = .ok db') (hext : l.ext = none) (hx : ∀ e ∈ l.entries, e.external = false)
    (hfkE : ∀ o ∈ db.entries, o.lex ∈ db.lexicons.map (·.rowid))
    (hfkF : ∀ f ∈ db.forms, f.entry ∈ db.entries.map (·.rowid)) :
    ∃ (c : Ctx) (rows : List REntry) (chunks : List (List RForm)),
      c.lexid = nextId (db.lexicons.map (·.rowid)) ∧ c.extid = c.lexid ∧ db'.entries = db.entries ++ rows ∧
      EntryRows c db.entries l.entries rows ∧ Forall2 (ChunkOf norm c (db.entries ++ rows)) l.entries chunks ∧
      findEntries db' none [] none [c.lexid] false true = (rows.zip chunks).map (fun p => wordOf p.1 p.2) ∧
      (∀ i (h1 : i < l.entries.length) (h2 : i < rows.length),
        entryRowE' (db.entries ++ rows) (l.entries[i]).id c.lexid = some (rows[i]).rowid) := by
  obtain ⟨c, rows, chunks, hc1, hc2, hE, hR, hF, hC⟩ := addLexicon_words_tables norm dr db db' l h hext hx
  have hlid := Ctx.lid_of_plain hc2
  have hrl : ∀ r ∈ rows, r.lex = c.lexid := hR.rows.forall_right fun _ _ h => h.2.1
  have hold : ∀ o ∈ db.entries, o.lex ≠ c.lexid := fun o ho e => nextId_not_mem _ (hc1 ▸ e ▸ hfkE o ho)
  -- no old row has the id in this lexicon, and the new ids are distinct
  have hER : ∀ i (h1 : i < l.entries.length) (h2 : i < rows.length),
      entryRowE' (db.entries ++ rows) (l.entries[i]).id c.lexid = some (rows[i]).rowid := by
    intro i h1 h2
    rw [← (hR.spec i h1 h2).1]
    exact congrArg (Option.map (·.rowid))
      (find?_new_row REntry.id REntry.lex hold hrl (List.pairwise_map.mpr hR.distinct) (List.getElem_mem h2))
  have hch : Forall2 (fun r ch => (∀ f ∈ ch, f.entry = r.rowid) ∧ ch ≠ [] ∧ ch.Pairwise (fun a b => a.rank ≤ b.rank)) rows chunks := by
    apply Forall2.of_index rows chunks (hR.len.trans hC.length_eq)
    intro i h1 h2
    have h0 : i < l.entries.length := hR.len ▸ h1
    obtain ⟨hown, hne, hs⟩ := (hC.get i h0 h2).shape
    exact ⟨fun f hf => Option.some.inj ((hlid _ ▸ hown f hf).symm.trans (hER i h0 h1)), hne, hs⟩
  refine ⟨c, rows, chunks, hc1, hc2, hE, hR, hC, ?_, hER⟩
  refine findEntries_of_tables hE hF hold hrl hR.incr (fun f hf r hr e => ?_) hch
  -- an old form hangs on an old entry, and the new rowids are above the old ones
  obtain ⟨o, ho, hor⟩ := List.mem_map.mp (hfkF f hf)
  have := hR.above r hr o ho
  omega

/-- Let `l` be a plain lexicon (no `Extends`, no external entries) and `db` any store in which entry rows point at
existing lexicon rows and form rows at existing entry rows.  If `add` of `l` succeeds, then `words()` restricted to the
new lexicon reports exactly the document's entries, in document order, each with its id, the part of speech of its
lemma, and its lemma followed by its further forms in document order with written form, id and script unaltered. -/
theorem C01_words_end_to_end (norm : String → String) (dr : Nat) (db db' : Db) (l : Lexicon)
    (h : addLexicon norm dr db l = .ok db') (hext : l.ext = none) (hx : ∀ e ∈ l.entries, e.external = false)
    (hfkE : ∀ o ∈ db.entries, o.lex ∈ db.lexicons.map (·.rowid))
    (hfkF : ∀ f ∈ db.forms, f.entry ∈ db.entries.map (·.rowid)) :
    (findEntries db' none [] none [nextId (db.lexicons.map (·.rowid))] false true).map obsWord = l.entries.map docWord := by
  obtain ⟨c, rows, chunks, hc1, -, -, hR, hC, hfind, -⟩ := words_eval norm dr db db' l h hext hx hfkE hfkF
  rw [← hc1, hfind, List.map_map]
  apply List.ext_getElem
  · simp [hR.len, hC.length_eq]
  · intro i h1 h2
    have hi0 : i < l.entries.length := by simpa using h2
    obtain ⟨s1, -, -, lem, s4, s5⟩ := hR.spec i hi0 (hR.len ▸ hi0)
    have hobs := (hC.get i hi0 (hC.length_eq ▸ hi0)).obs
    simp only [List.getElem_map, List.getElem_zip, Function.comp]
    exact Prod.ext s1 (Prod.ext (by rw [docWord, s4]; exact s5) ((List.map_map ..).trans hobs))

/-! non-vacuity: a concrete lexicon for which `add` succeeds on the empty store, so that the
hypotheses of `C01_words_end_to_end` are jointly satisfiable (the kernel runs the whole `addLexicon`) -/

def demoLex : Lexicon :=
  { id := "a", version := "1", label := "A", language := "en", email := "e", license := "l",
    entries := [{ id := "e1", lemma := some { form := "cat", pos := "n", script := some "Latn" },
                  forms := [{ id := some "f1", form := "cats" }, { form := "kitty" }],
                  senses := [{ id := "s1", synset := "y1" }] },
                { id := "e2", lemma := some { form := "dog", pos := "n" } }],
    synsets := [{ id := "y1", ili := "i1", pos := some "n" }] }

def isOk {α} : R α → Bool | .ok _ => true | .error _ => false

example : isOk (addLexicon (fun s => s) 127 Db.empty demoLex) = true ∧ demoLex.ext = none ∧
    (∀ e ∈ demoLex.entries, e.external = false) := by decide +kernel

/-- the content of one synset of the document as `synsets()` reports it: id, part of speech and the
ILI id (none for "" and for a proposed ILI "in") -/
def docSynset (ss : Synset) : String × String × Option String :=
  (ss.id, ss.pos.getD "", if (ss.ili != "" && ss.ili != "in") then some ss.ili else none)

/-- after a successful `add` of any lexicon (plain or extension), `synsets()` restricted to the new lexicon reports
exactly the document's non-external synsets, in document order, each with its id, part of speech and ILI id — on any
store whose synset rows point at existing lexicon rows and whose ILI rowids are unique. -/
theorem C01_synsets_end_to_end (norm : String → String) (dr : Nat) (db db' : Db) (l : Lexicon)
    (h : addLexicon norm dr db l = .ok db')
    (hfkY : ∀ o ∈ db.synsets, o.lex ∈ db.lexicons.map (·.rowid)) (hn : (db.ilis.map (·.rowid)).Nodup) :
    (findSynsets db' none [] none none [nextId (db.lexicons.map (·.rowid))] false true).map (fun y => (y.id, y.pos, y.ili)) =
      (localSynsets l).map docSynset := by
  obtain ⟨t⟩ := addLexicon_split norm dr db db' l h
  obtain ⟨rows, hsyn, hF⟩ := insertSynsets_rows _ _ l _ t.syn hn
  have hsyn : db'.synsets = db.synsets ++ rows := hsyn
  rw [← t.lexid_eq, findSynsets_all, hsyn, filter_lex_append RSynset.lex (t.old_lex_ne hfkY)
    (hF.forall_right fun _ _ hr => hr.2.1), List.map_map]
  refine Forall2.map_eq _ docSynset (fun ss r hr => ?_) hF
  obtain ⟨a1, -, ⟨p, hp, hpp⟩, a4⟩ := hr
  -- the `ilis` table after `_insert_synsets` is the final one
  have a4 : iliIdOf db' r.ili = _ := a4
  simp only [Function.comp, synsetData, docSynset, a1, hpp, hp, Option.getD_some, a4]

/-! A row of the new lexicon is the one found under its id: `_insert_entries` keeps entry ids unique within the lexicon;
synset and sense ids are unique where the document's are. -/

theorem entryRow_new {norm : String → String} {dr : Nat} {db db' : Db} {l : Lexicon} (t : AddTrace norm dr db db' l)
    (hfk : ∀ o ∈ db.entries, o.lex ∈ db.lexicons.map (·.rowid)) {r : REntry} (hr : r ∈ db'.entries) (hl : r.lex = t.lexid) :
    entryRow db' r.id t.lexid = some r.rowid := by
  obtain ⟨rows, hd3, hR⟩ := insertEntries_rows (c := t.ctx) _ _ _ t.ent
  have hE : db'.entries = db.entries ++ rows := (congrArg Db.entries hd3 :)
  unfold entryRow
  rw [hE] at hr ⊢
  exact rowOf_new REntry.id REntry.lex REntry.rowid (t.old_lex_ne hfk)
    (hR.rows.forall_right fun _ _ h => h.2.1) (List.pairwise_map.mpr hR.distinct) hr hl

theorem synsetRow_new {norm : String → String} {dr : Nat} {db db' : Db} {l : Lexicon} (t : AddTrace norm dr db db' l)
    (hfk : ∀ o ∈ db.synsets, o.lex ∈ db.lexicons.map (·.rowid)) (hids : ((localSynsets l).map (·.id)).Nodup)
    {r : RSynset} (hr : r ∈ db'.synsets) (hl : r.lex = t.lexid) : synsetRow db' r.id t.lexid = some r.rowid := by
  obtain ⟨rows, -, hY, -, hF, -⟩ := insertSynsets_table t.syn
  have hd : (rows.map RSynset.id).Nodup := Forall2.map_eq RSynset.id Synset.id (fun _ _ h => h.1.1) hF ▸ hids
  unfold synsetRow
  rw [hY] at hr ⊢
  exact rowOf_new RSynset.id RSynset.lex RSynset.rowid (t.old_lex_ne hfk)
    (hF.forall_right fun _ _ h => h.1.2.1) hd hr hl

theorem senseRow_new {norm : String → String} {dr : Nat} {db db' : Db} {l : Lexicon} (t : AddTrace norm dr db db' l)
    (hfk : ∀ o ∈ db.senses, o.lex ∈ db.lexicons.map (·.rowid)) (hids : ((sensePairs l).map (·.2.1.id)).Nodup)
    {r : RSense} (hr : r ∈ db'.senses) (hl : r.lex = t.lexid) : senseRow db' r.id t.lexid = some r.rowid := by
  obtain ⟨-, -, rows, hS, hF, -⟩ := addLexicon_sense_table t
  have hd : (rows.map RSense.id).Nodup :=
    Forall2.map_eq RSense.id (fun p : Entry × (Sense × Nat) => p.2.1.id) (fun _ _ h => h.1) hF ▸ hids
  unfold senseRow
  rw [hS] at hr ⊢
  exact rowOf_new RSense.id RSense.lex RSense.rowid (t.old_lex_ne hfk)
    (hF.forall_right fun _ _ h => h.2.1) hd hr hl

theorem senseData_new {norm : String → String} {dr : Nat} {db db' : Db} {l : Lexicon} (t : AddTrace norm dr db db' l)
    (hnE : (db.entries.map (·.rowid)).Nodup) (hnY : (db.synsets.map (·.rowid)).Nodup)
    {e : Entry} {si : Sense × Nat} {r : RSense} (h : SenseRowT t.ctx (db'.entries, db'.synsets) e si r) :
    senseData db' r = some ⟨si.1.id, e.id, si.1.synset, r.lex, r.rowid⟩ :=
  h.1 ▸ senseData_resolve h.2.2.2.1 h.2.2.2.2 (t.nodup_entries hnE) (t.nodup_synsets hnY)

/-- `senses()` of the new lexicon, for any lexicon (plain or extension) -/
theorem senses_listing {norm : String → String} {dr : Nat} {db db' : Db} {l : Lexicon} (t : AddTrace norm dr db db' l)
    (hfkS : ∀ o ∈ db.senses, o.lex ∈ db.lexicons.map (·.rowid))
    (hnE : (db.entries.map (·.rowid)).Nodup) (hnY : (db.synsets.map (·.rowid)).Nodup) :
    (findSenses db' none [] none [t.lexid] false true).map (fun s => (s.id, s.entryId, s.synsetId)) =
      (sensePairs l).map (fun p => (p.2.1.id, p.1.id, p.2.1.synset)) := by
  obtain ⟨-, -, rows, hrows, hF, -⟩ := addLexicon_sense_table t
  rw [findSenses_all, hrows, filter_lex_append RSense.lex (k := t.lexid) (t.old_lex_ne hfkS) (Forall2.forall_right (fun _ _ hr => hr.2.1) hF),
    List.map_filterMap]
  exact Forall2.filterMap_eq_map _ _ (fun p r hr => by rw [senseData_new t hnE hnY hr]; rfl) hF

/-- after a successful `add`, `senses()` of the new lexicon reports exactly the document's (non-external) senses,
entry by entry in document order, each with its own id, the id of the entry it was declared under and the id of the
synset it references — on any store with unique entry / synset rowids whose sense rows point at existing
lexicons.  `hext` is not used: this holds for any lexicon (`senses_listing`). -/
theorem C01_senses_end_to_end (norm : String → String) (dr : Nat) (db db' : Db) (l : Lexicon)
    (h : addLexicon norm dr db l = .ok db') (hext : l.ext = none)
    (hfkS : ∀ o ∈ db.senses, o.lex ∈ db.lexicons.map (·.rowid))
    (hnE : (db.entries.map (·.rowid)).Nodup) (hnY : (db.synsets.map (·.rowid)).Nodup) :
    (findSenses db' none [] none [nextId (db.lexicons.map (·.rowid))] false true).map (fun s => (s.id, s.entryId, s.synsetId)) =
      l.entries.flatMap (fun e => (localSenses e).map (fun s => (s.id, e.id, s.synset))) := by
  obtain ⟨t⟩ := addLexicon_split norm dr db db' l h
  rw [← t.lexid_eq, senses_listing t hfkS hnE hnY, sensePairs, List.map_flatMap]
  congr 1
  funext e
  rw [List.map_map]
  conv => rhs; rw [← List.zipIdx_map_fst 0 (localSenses e), List.map_map]
  rfl

/-! ### the three relation queries

`get_synset_relations`, `get_sense_relations` and `get_sense_synset_relations` are each `DISTINCT` of the
row function `relRow` over their table (`Lemmas/RelQuery`).  A new row whose source is the queried one and
whose target resolves in the new lexicon is reported with the document's type, target id and metadata
(`relRow_new`); an old row is not (`relRow_outside`); `DISTINCT` drops what `dedupBy id` drops from the
document's list, since target ids resolve injectively.  `relQuery_new` puts the three together; each
end-to-end theorem is that lemma at its table. -/

/-- what a user sees of a relation: (type, target synset id, metadata) -/
def obsSynRel (r : RelData SynsetData) : String × String × Option Meta := (r.name, r.target.id, r.md)
def obsSenseRel (r : RelData SenseData) : String × String × Option Meta := (r.name, r.target.id, r.md)
def docRel (r : Relation) : String × String × Option Meta := (r.relType, r.target, r.md)

/-- the relation `d` a query reports for the document relation `r` from the source with rowid `x0`;
`look` resolves a target id, inside the new lexicon, to the rowid the `DISTINCT` key carries -/
structure RelObs {τ} (look : String → Option Nat) (spec : String) (x0 : Nat) (tid : τ → String) (trow : τ → Nat)
    (r : Relation) (d : RelData τ) : Prop where
  name : d.name = r.relType
  lexicon : d.lexicon = spec
  md : d.md = r.md
  source : d.source = x0
  target : tid d.target = r.target
  row : look r.target = some (trow d.target)

theorem relRow_new {ρ τ} {db' : Db} {T : List ρ} {id : ρ → String} {lex rowid : ρ → Nat} {dec : ρ → Option τ}
    {tid : τ → String} {trow : τ → Nat} {k kt : Nat} {types : List String}
    (htypes : (types.isEmpty || types.contains "*") = true)
    (hnT : (T.map rowid).Nodup) (hnR : (db'.reltypes.map (·.1)).Nodup)
    (hdec : ∀ tr ∈ T, lex tr = k → ∃ d, dec tr = some d ∧ tid d = id tr ∧ trow d = rowid tr)
    {sel : RRel → Bool} {x0 : Nat} (hsel : ∀ r, sel r = (r.source == x0))
    {lookS : String → Option Nat} (hinjS : ∀ i j x, lookS i = some x → lookS j = some x → i = j)
    {sid : String} (hx0 : lookS sid = some x0) {src : String} {r : Relation} {row : RRel}
    (hlex : row.lex = k) (hsrc : lookS src = some row.source)
    (htgt : (T.find? (fun x => id x == r.target && lex x == kt)).map rowid = some row.target)
    (hty : lookupId db'.reltypes r.relType = some row.type) (hmd : row.md = r.md) :
    if (src == sid && kt == k) then
      ∃ d, relRow db' T rowid lex dec sel types [k] row = some d ∧
        RelObs (fun i => (T.find? (fun x => id x == i && lex x == k)).map rowid) (lexSpec db' k) x0 tid trow r d
    else relRow db' T rowid lex dec sel types [k] row = none := by
  obtain ⟨tr, hft, htm, htid, htlex, htrow⟩ := find_rowOf hnT htgt
  have hsrc' : sel row = (src == sid) := by rw [hsel, beq_of_injective_lookup hinjS hsrc hx0]
  split
  · rename_i hc
    obtain ⟨h1, h2⟩ := Bool.and_eq_true_iff.mp hc
    obtain rfl : kt = k := eq_of_beq h2
    obtain ⟨d, hd, hdi, hdr⟩ := hdec tr htm htlex
    refine ⟨_, relRow_eq_some.mpr ⟨hsrc'.trans h1, List.mem_singleton.mpr hlex, _, tr, d,
      typeOk_of_lookupId db' hnR htypes hty, hft, List.mem_singleton.mpr htlex, hd, rfl⟩, rfl, by rw [hlex], hmd, ?_,
      hdi.trans htid, by rw [htgt, ← htrow, ← hdr]⟩
    exact eq_of_beq ((hsel row).symm.trans (hsrc'.trans h1))
  · rename_i hc
    refine Option.eq_none_iff_forall_ne_some.mpr fun d hd => hc ?_
    obtain ⟨hs, -, _, tgt, _, -, ht, htl, -, -⟩ := relRow_eq_some.mp hd
    obtain rfl : tgt = tr := Option.some.inj (ht.symm.trans hft)
    rw [← hsrc', hs, ← htlex, List.mem_singleton.mp htl, beq_self_eq_true]
    rfl

/-- a `DISTINCT` relation query restricted to the lexicon `k`, over its table `old ++ rows`: each new row was written for
the document relation `rel p` listed under the source id `src p`, with source, target and type resolved by look-ups in
the tables of `db'` -/
theorem relQuery_new {π ρ τ κ} [BEq κ] [LawfulBEq κ] {db' : Db} {T : List ρ} {lex rowid : ρ → Nat} {dec : ρ → Option τ}
    {key : RelData τ → κ} {k : Nat} {types : List String} {sel : RRel → Bool} {old rows : List RRel} {pairs : List π}
    (src : π → String) (rel : π → Relation) (lid : String → Nat) (tid : τ → String) (trow : τ → Nat) (idT : ρ → String)
    (hkey : ∀ d d' : RelData τ, d.source = d'.source →
      (key d = key d' ↔ d.name = d'.name ∧ d.lexicon = d'.lexicon ∧ d.md = d'.md ∧ trow d.target = trow d'.target))
    (htypes : (types.isEmpty || types.contains "*") = true)
    (hnT : (T.map rowid).Nodup) (hnR : (db'.reltypes.map (·.1)).Nodup)
    (hdec : ∀ tr ∈ T, lex tr = k → ∃ d, dec tr = some d ∧ tid d = idT tr ∧ trow d = rowid tr)
    {x0 : Nat} (hsel : ∀ r, sel r = (r.source == x0))
    {lookS : String → Option Nat} (hinjS : ∀ i j x, lookS i = some x → lookS j = some x → i = j)
    {sid : String} (hx0 : lookS sid = some x0) (hold : ∀ o ∈ old, o.lex ≠ k)
    (hF : Forall2 (fun p row => row.lex = k ∧ lookS (src p) = some row.source ∧
      (T.find? (fun x => idT x == (rel p).target && lex x == lid (rel p).target)).map rowid = some row.target ∧
      lookupId db'.reltypes (rel p).relType = some row.type ∧ row.md = (rel p).md) pairs rows) :
    (dedupBy key ((old ++ rows).filterMap (relRow db' T rowid lex dec sel types [k]))).map
        (fun d => (d.name, tid d.target, d.md)) =
      dedupBy id ((pairs.filter (fun p => src p == sid && lid (rel p).target == k)).map (fun p => docRel (rel p))) := by
  have hobs := Forall2.filter_filterMap (fun p => src p == sid && lid (rel p).target == k) _
    (fun p row ⟨h1, h2, h3, h4, h5⟩ => relRow_new htypes hnT hnR hdec hsel hinjS hx0 h1 h2 h3 h4 h5) hF
  rw [List.filterMap_append, List.filterMap_eq_nil_iff.mpr fun o ho => relRow_outside fun h => hold o ho (List.mem_singleton.mp h),
    List.nil_append, dedupBy_map]
  refine Forall2.map_eq _ _ (fun p d h => by rw [docRel, h.name, h.target, h.md])
    (Forall2.dedupBy (fun p => docRel (rel p)) key (fun p d p' d' h h' => ?_) hobs)
  -- two reported relations agree on the `DISTINCT` columns iff the document relations agree on what is observed
  rw [hkey d d' (h.source.trans h'.source.symm), h.name, h'.name, h.lexicon, h'.lexicon, h.md, h'.md]
  simp only [docRel, Prod.mk.injEq, true_and]
  constructor
  · rintro ⟨h1, h2, h3⟩
    exact ⟨h1, h3, Option.some.inj (h.row.symm.trans (h2 ▸ h'.row))⟩
  · rintro ⟨h1, h3, h4⟩
    exact ⟨h1, rowOf_inj hnT (fun _ => k) _ _ _ (h4 ▸ h.row) h'.row, h3⟩

/-- after a successful `add` of any lexicon, the relations that `get_synset_relations` reports, inside the new lexicon,
for the synset with id `sid` are exactly the `<SynsetRelation>` elements that the document lists under that id whose
target is resolved in the new lexicon — in document order, with type, target id and metadata unaltered, exact
duplicates reported once — on any store with unique rowids whose relation rows point at existing lexicons. -/
theorem C01_synset_relations_end_to_end {norm : String → String} {dr : Nat} {db db' : Db} {l : Lexicon}
    (t : AddTrace norm dr db db' l)
    (hfkR : ∀ o ∈ db.synrels, o.lex ∈ db.lexicons.map (·.rowid))
    (hnY : (db.synsets.map (·.rowid)).Nodup) (hnT : (db.reltypes.map (·.1)).Nodup)
    (types : List String) (htypes : (types.isEmpty || types.contains "*") = true)
    (sid : String) (x0 : Nat) (hx0 : synsetRow db' sid (t.ctx.lid sid) = some x0) :
    (synsetRelations db' [x0] types [t.lexid]).map obsSynRel =
      dedupBy id (((synRelPairs l).filter (fun p => p.1.id == sid && t.ctx.lid p.2.target == t.lexid)).map (fun p => docRel p.2)) := by
  obtain ⟨-, -, rows, hrows, hF⟩ := addLexicon_synrel_table t
  have hnY' := t.nodup_synsets hnY
  rw [synsetRelations_eq, hrows]
  exact relQuery_new (fun p : Synset × Relation => p.1.id) (fun p => p.2) t.ctx.lid SynsetData.id SynsetData.rowid RSynset.id
    (fun d d' hs => by simp only [Prod.mk.injEq, hs, true_and]) htypes hnY' (t.nodup_reltypes hnT)
    (fun tr _ _ => ⟨_, rfl, rfl, rfl⟩) (fun r => by rw [List.contains_cons, List.contains_nil, Bool.or_false])
    (rowOf_inj hnY' t.ctx.lid) hx0 (t.old_lex_ne hfkR) hF

/-- the same for a plain (non-extension) lexicon, stated without the trace: every id is resolved in
the new lexicon, so all `<SynsetRelation>`s listed under the id are reported -/
theorem C01_synset_relations_plain (norm : String → String) (dr : Nat) (db db' : Db) (l : Lexicon)
    (h : addLexicon norm dr db l = .ok db') (hplain : l.ext = none)
    (hfkR : ∀ o ∈ db.synrels, o.lex ∈ db.lexicons.map (·.rowid))
    (hnY : (db.synsets.map (·.rowid)).Nodup) (hnT : (db.reltypes.map (·.1)).Nodup)
    (sid : String) (x0 : Nat) (hx0 : synsetRow db' sid (nextId (db.lexicons.map (·.rowid))) = some x0) :
    (synsetRelations db' [x0] [] [nextId (db.lexicons.map (·.rowid))]).map obsSynRel =
      dedupBy id (((synRelPairs l).filter (fun p => p.1.id == sid)).map (fun p => docRel p.2)) := by
  obtain ⟨t⟩ := addLexicon_split norm dr db db' l h
  have hlid := t.lid_plain hplain
  rw [← t.lexid_eq] at hx0 ⊢
  rw [C01_synset_relations_end_to_end t hfkR hnY hnT [] rfl sid x0 (by rw [hlid]; exact hx0)]
  simp only [hlid, beq_self_eq_true, Bool.and_true]

/-! non-vacuity: a lexicon with a repeated relation, a self-loop and two relation types; the add
succeeds on the empty store and the theorem's right-hand side is what the model's query returns -/
def relLex : Lexicon :=
  { id := "r", version := "1", label := "R", language := "en", email := "e", license := "l",
    synsets := [{ id := "a", pos := some "n", relations := [{ target := "b", relType := "hypernym" }, { target := "a", relType := "similar" },
                                                            { target := "b", relType := "hypernym" }, { target := "c", relType := "hypernym" }] },
                { id := "b", pos := some "n", relations := [{ target := "a", relType := "hyponym" }] },
                { id := "c", pos := some "n" }] }

example : (match addLexicon (fun s => s) 127 Db.empty relLex with
    | .ok db' => (synsetRow db' "a" 1, ((synsetRelations db' [1] [] [1]).map obsSynRel).map (fun o => (o.1, o.2.1)))
    | .error _ => (none, [])) =
    (some 1, [("hypernym", "b"), ("similar", "a"), ("hypernym", "c")]) := by decide +kernel

/-- after a successful `add` of any lexicon, the sense→sense relations that `get_sense_relations` reports, inside the
new lexicon, for the sense with id `sid` are exactly the `<SenseRelation>` elements the document lists under that sense
id whose target is a sense resolved in the new lexicon — in document order, with type, target id and metadata
unaltered, exact duplicates once. -/
theorem C01_sense_relations_end_to_end {norm : String → String} {dr : Nat} {db db' : Db} {l : Lexicon}
    (t : AddTrace norm dr db db' l)
    (hfkR : ∀ o ∈ db.senserels, o.lex ∈ db.lexicons.map (·.rowid))
    (hfkS : ∀ o ∈ db.senses, o.lex ∈ db.lexicons.map (·.rowid))
    (hnS : (db.senses.map (·.rowid)).Nodup) (hnE : (db.entries.map (·.rowid)).Nodup)
    (hnY : (db.synsets.map (·.rowid)).Nodup) (hnT : (db.reltypes.map (·.1)).Nodup)
    (types : List String) (htypes : (types.isEmpty || types.contains "*") = true)
    (sid : String) (x0 : Nat) (hx0 : senseRow db' sid (t.ctx.lid sid) = some x0) :
    (senseRelations db' x0 types [t.lexid]).map obsSenseRel =
      dedupBy id (((senseRelPairs l).filter (fun p => p.1 == sid && t.ctx.lid p.2.target == t.lexid)).map (fun p => docRel p.2)) := by
  obtain ⟨-, rows, hrows, hF⟩ := addLexicon_senserel_table t
  obtain ⟨-, -, srows, hsrows, hSF, -⟩ := addLexicon_sense_table t
  have hnS' := t.nodup_senses hnS
  -- the senses of the new lexicon are the new rows, and these decode
  have hsd : ∀ tr ∈ db'.senses, tr.lex = t.ctx.lexid → ∃ d, senseData db' tr = some d ∧ d.id = tr.id ∧ d.rowid = tr.rowid := by
    intro tr htr hl
    rcases List.mem_append.mp (hsrows ▸ htr) with ho | hn
    · exact absurd hl (t.old_lex_ne hfkS tr ho)
    · obtain ⟨p, -, hp⟩ := Forall2.exists_of_mem_right hSF tr hn
      exact ⟨_, senseData_new t hnE hnY hp, hp.1.symm, rfl⟩
  rw [senseRelations_eq, hrows]
  exact relQuery_new (fun p : String × Relation => p.1) (fun p => p.2) t.ctx.lid SenseData.id SenseData.rowid RSense.id
    (fun d d' _ => by simp only [Prod.mk.injEq]) htypes hnS' (t.nodup_reltypes hnT) hsd (fun _ => rfl)
    (rowOf_inj hnS' t.ctx.lid) hx0 (t.old_lex_ne hfkR) hF

example : (match addLexicon (fun s => s) 127 Db.empty
      { id := "r", version := "1", label := "R", language := "en", email := "e", license := "l",
        entries := [{ id := "e1", lemma := some { form := "hot", pos := "a" },
                      senses := [{ id := "s1", synset := "y1", relations := [{ target := "s2", relType := "antonym" },
                                   { target := "s2", relType := "antonym" }, { target := "y1", relType := "domain_topic" }] }] },
                    { id := "e2", lemma := some { form := "cold", pos := "a" },
                      senses := [{ id := "s2", synset := "y1", relations := [{ target := "s1", relType := "antonym" }] }] }],
        synsets := [{ id := "y1", pos := some "a" }] } with
    | .ok db' => (senseRow db' "s1" 1, ((senseRelations db' 1 [] [1]).map obsSenseRel).map (fun o => (o.1, o.2.1)))
    | .error _ => (none, [])) = (some 1, [("antonym", "s2")]) := by decide +kernel

/-- after a successful `add` of any lexicon, the sense→synset relations that `get_sense_synset_relations` reports,
inside the new lexicon, for the sense with id `sid` are exactly the `<SenseRelation>` elements the document lists under
that sense id whose target is a synset, and no sense, resolved in the new lexicon — in document order, with type,
target id and metadata unaltered, exact duplicates once. -/
theorem C01_sense_synset_relations_end_to_end {norm : String → String} {dr : Nat} {db db' : Db} {l : Lexicon}
    (t : AddTrace norm dr db db' l)
    (hfkR : ∀ o ∈ db.sensesynrels, o.lex ∈ db.lexicons.map (·.rowid))
    (hnS : (db.senses.map (·.rowid)).Nodup)
    (hnY : (db.synsets.map (·.rowid)).Nodup) (hnT : (db.reltypes.map (·.1)).Nodup)
    (types : List String) (htypes : (types.isEmpty || types.contains "*") = true)
    (sid : String) (x0 : Nat) (hx0 : senseRow db' sid (t.ctx.lid sid) = some x0) :
    (senseSynsetRelations db' x0 types [t.lexid]).map obsSynRel =
      dedupBy id (((senseSynRelPairs l).filter (fun p => p.1 == sid && t.ctx.lid p.2.target == t.lexid)).map (fun p => docRel p.2)) := by
  obtain ⟨-, rows, hrows, hF⟩ := addLexicon_sensesynrel_table t
  have hnY' := t.nodup_synsets hnY
  rw [senseSynsetRelations_eq, hrows]
  exact relQuery_new (fun p : String × Relation => p.1) (fun p => p.2) t.ctx.lid SynsetData.id SynsetData.rowid RSynset.id
    (fun d d' hs => by simp only [Prod.mk.injEq, hs, true_and]) htypes hnY' (t.nodup_reltypes hnT)
    (fun tr _ _ => ⟨_, rfl, rfl, rfl⟩) (fun _ => rfl)
    (rowOf_inj (t.nodup_senses hnS) t.ctx.lid) hx0 (t.old_lex_ne hfkR) hF

/-- the definitions `get_definitions` reports, inside the new lexicon, for the synset with id `sid` are exactly the
`<Definition>`s the document lists under that id, in order, with text and language unaltered. -/
theorem C01_definitions_end_to_end {norm : String → String} {dr : Nat} {db db' : Db} {l : Lexicon}
    (t : AddTrace norm dr db db' l)
    (hfk : ∀ o ∈ db.defs, o.lex ∈ db.lexicons.map (·.rowid)) (hnY : (db.synsets.map (·.rowid)).Nodup)
    (sid : String) (x0 : Nat) (hx0 : synsetRow db' sid (t.ctx.lid sid) = some x0) :
    (definitions db' x0 [t.lexid]).map (fun d => (d.1, d.2.1)) =
      ((defPairs l).filter (fun p => p.1.id == sid)).map (fun p => (p.2.text, p.2.language)) := by
  obtain ⟨⟨rows, hrows, hF⟩, -, -⟩ := addLexicon_defs_tables t
  unfold definitions
  rw [List.map_map, hrows]
  exact owned_query (fun i => synsetRowY' db'.synsets i (t.ctx.lid i)) (rowOf_inj (t.nodup_synsets hnY) _)
    RDef.synset RDef.lex (fun p : Synset × Definition => p.1.id) (fun d : RDef => (d.text, d.language)) (fun p => (p.2.text, p.2.language))
    (t.old_lex_ne hfk) (hF.imp fun p r hr => ⟨hr.1, hr.2.1, by rw [hr.2.2.1, hr.2.2.2.1]⟩) sid x0 hx0

/-- the examples `get_examples` reports, inside the new lexicon, for the synset with id `sid` are exactly the
`<Example>`s the document lists under that id, in order, with text, language and metadata unaltered. -/
theorem C01_synset_examples_end_to_end {norm : String → String} {dr : Nat} {db db' : Db} {l : Lexicon}
    (t : AddTrace norm dr db db' l)
    (hfk : ∀ o ∈ db.synexs, o.lex ∈ db.lexicons.map (·.rowid)) (hnY : (db.synsets.map (·.rowid)).Nodup)
    (sid : String) (x0 : Nat) (hx0 : synsetRow db' sid (t.ctx.lid sid) = some x0) :
    (synsetExamples db' x0 [t.lexid]).map (fun x => (x.text, x.language, x.md)) =
      ((synExPairs l).filter (fun p => p.1.id == sid)).map (fun p => (p.2.text, p.2.language, p.2.md)) := by
  obtain ⟨-, ⟨rows, hrows, hF⟩, -⟩ := addLexicon_defs_tables t
  unfold synsetExamples
  rw [hrows]
  exact owned_query (fun i => synsetRowY' db'.synsets i (t.ctx.lid i)) (rowOf_inj (t.nodup_synsets hnY) _)
    RExample.owner RExample.lex (fun p : Synset × Example => p.1.id) (fun x : RExample => (x.text, x.language, x.md)) (fun p => (p.2.text, p.2.language, p.2.md))
    (t.old_lex_ne hfk) (hF.imp fun p r hr => ⟨hr.1, hr.2.1, by rw [hr.2.2.1, hr.2.2.2.1, hr.2.2.2.2]⟩) sid x0 hx0

/-- the examples `get_examples` reports, inside the new lexicon, for the sense with id `sid` are exactly the
`<Example>`s the document lists under that sense, in order, with text, language and metadata unaltered. -/
theorem C01_sense_examples_end_to_end {norm : String → String} {dr : Nat} {db db' : Db} {l : Lexicon}
    (t : AddTrace norm dr db db' l)
    (hfk : ∀ o ∈ db.sensexs, o.lex ∈ db.lexicons.map (·.rowid)) (hnS : (db.senses.map (·.rowid)).Nodup)
    (sid : String) (x0 : Nat) (hx0 : senseRow db' sid (t.ctx.lid sid) = some x0) :
    (senseExamples db' x0 [t.lexid]).map (fun x => (x.text, x.language, x.md)) =
      ((senseExPairs l).filter (fun p => p.1.id == sid)).map (fun p => (p.2.text, p.2.language, p.2.md)) := by
  obtain ⟨-, -, ⟨rows, hrows, hF⟩⟩ := addLexicon_defs_tables t
  unfold senseExamples
  rw [hrows]
  exact owned_query (fun i => senseRowS' db'.senses i (t.ctx.lid i)) (rowOf_inj (t.nodup_senses hnS) _)
    RExample.owner RExample.lex (fun p : Sense × Example => p.1.id) (fun x : RExample => (x.text, x.language, x.md)) (fun p => (p.2.text, p.2.language, p.2.md))
    (t.old_lex_ne hfk) (hF.imp fun p r hr => ⟨hr.1, hr.2.1, by rw [hr.2.2.1, hr.2.2.2.1, hr.2.2.2.2]⟩) sid x0 hx0

/-- the counts `get_sense_counts` reports, inside the new lexicon, for the sense with id `sid` are exactly the
`<Count>`s the document lists under that sense, in order, with value and metadata unaltered. -/
theorem C01_counts_end_to_end {norm : String → String} {dr : Nat} {db db' : Db} {l : Lexicon}
    (t : AddTrace norm dr db db' l)
    (hfk : ∀ o ∈ db.counts, o.lex ∈ db.lexicons.map (·.rowid)) (hnS : (db.senses.map (·.rowid)).Nodup)
    (sid : String) (x0 : Nat) (hx0 : senseRow db' sid (t.ctx.lid sid) = some x0) :
    (senseCounts db' x0 [t.lexid]).map (fun x => (x.value, x.md)) =
      ((countPairs l).filter (fun p => p.1.id == sid)).map (fun p => (p.2.value, p.2.md)) := by
  obtain ⟨rows, hrows, hF⟩ := addLexicon_counts_table t
  unfold senseCounts
  rw [hrows]
  exact owned_query (fun i => senseRowS' db'.senses i (t.ctx.lid i)) (rowOf_inj (t.nodup_senses hnS) _)
    RCount.sense RCount.lex (fun p : Sense × Count => p.1.id) (fun x : RCount => (x.value, x.md)) (fun p => (p.2.value, p.2.md))
    (t.old_lex_ne hfk) (hF.imp fun p r hr => ⟨hr.1, hr.2.1, by rw [hr.2.2.1, hr.2.2.2]⟩) sid x0 hx0

/-- `Word.senses()`: when the entry ids of the document are pairwise distinct, `get_entry_senses` of an entry's row,
inside the new lexicon, lists exactly the entry's non-external senses in document order (`ORDER BY entry_rank` =
position), each with its id and synset id -/
theorem C01_word_senses_end_to_end {norm : String → String} {dr : Nat} {db db' : Db} {l : Lexicon}
    (t : AddTrace norm dr db db' l)
    (hfkS : ∀ o ∈ db.senses, o.lex ∈ db.lexicons.map (·.rowid))
    (hnE : (db.entries.map (·.rowid)).Nodup) (hnY : (db.synsets.map (·.rowid)).Nodup)
    (hids : (l.entries.map (·.id)).Nodup)
    (e : Entry) (he : e ∈ l.entries) (er : Nat) (her : entryRow db' e.id (t.ctx.lid e.id) = some er) :
    (entrySenses db' er [t.lexid]).map (fun s => (s.id, s.synsetId)) = (localSenses e).map (fun s => (s.id, s.synset)) := by
  obtain ⟨-, -, rows, hrows, hF, -⟩ := addLexicon_sense_table t
  -- the rows of this entry are those of its local senses, in document order
  have hsub := Forall2.filter_owner (rowOf_inj (t.nodup_entries hnE) t.ctx.lid) RSense.entry (fun p : Entry × (Sense × Nat) => p.1.id)
    (fun _ _ hr => hr.2.2.2.1) her hF
  rw [sensePairs, pairs_filter_of_nodup (fun x : Entry => x.id) (fun x => (localSenses x).zipIdx) l.entries hids e he] at hsub
  -- so they are already ordered by rank
  have hsorted := Forall2.pairwise (S := fun p p' => p.2.2 < p'.2.2) (T := fun x y : RSense => x.erank ≤ y.erank)
    (fun a b a' b' h h' hlt => by rw [h.2.2.1, h'.2.2.1]; exact Nat.le_of_lt hlt) hsub
    (List.pairwise_map.mpr (zipIdx_pairwise (localSenses e) 0).1)
  unfold entrySenses
  rw [hrows, filter_owned_append RSense.entry RSense.lex (t.old_lex_ne hfkS)
      (Forall2.forall_right (fun _ _ hr => hr.2.1) hF), sortBy_of_sorted _ _ hsorted, List.map_filterMap,
    ← List.zipIdx_map_fst 0 (localSenses e), List.map_map]
  exact Forall2.filterMap_eq_map _ _ (fun p r hr => by rw [senseData_new t hnE hnY hr]; rfl) (Forall2.of_map_left _ hsub)

theorem synsetMembers_new {norm : String → String} {dr : Nat} {db db' : Db} {l : Lexicon}
    (t : AddTrace norm dr db db' l) (hfkS : ∀ o ∈ db.senses, o.lex ∈ db.lexicons.map (·.rowid))
    (hnY : (db.synsets.map (·.rowid)).Nodup)
    (sid : String) (x0 : Nat) (hx0 : synsetRow db' sid (t.ctx.lid sid) = some x0) :
    ∃ rows, synsetMembers db' x0 [t.lexid] = (sortBy (·.srank) rows).filterMap (senseData db') ∧
      Forall2 (fun (p : Entry × (Sense × Nat)) row => SenseRowT t.ctx (db'.entries, db'.synsets) p.1 p.2 row ∧
          row.srank = memberRank l dr p.2.1.id)
        ((sensePairs l).filter (fun p => p.2.1.synset == sid)) rows := by
  obtain ⟨-, -, rows, hrows, hF, -⟩ := addLexicon_sense_rows t
  refine ⟨rows.filter (fun r => r.synset == x0), ?_, Forall2.filter_owner
    (rowOf_inj (t.nodup_synsets hnY) t.ctx.lid) RSense.synset (fun p : Entry × (Sense × Nat) => p.2.1.synset) (fun _ _ hr => hr.1.2.2.2.2) hx0 hF⟩
  unfold synsetMembers
  rw [hrows, filter_owned_append RSense.synset RSense.lex (t.old_lex_ne hfkS)
    (Forall2.forall_right (fun _ _ hr => hr.1.2.1) hF)]

/-- when no `members` attribute ranks the senses (every sense has the default rank), `get_synset_members` of the
synset with id `sid`, inside the new lexicon, lists exactly the non-external senses of the document that reference
`sid`, in document order -/
theorem C01_synset_members_default_order {norm : String → String} {dr : Nat} {db db' : Db} {l : Lexicon}
    (t : AddTrace norm dr db db' l)
    (hfkS : ∀ o ∈ db.senses, o.lex ∈ db.lexicons.map (·.rowid))
    (hnE : (db.entries.map (·.rowid)).Nodup) (hnY : (db.synsets.map (·.rowid)).Nodup)
    (hrank : ∀ p ∈ sensePairs l, memberRank l dr p.2.1.id = dr)
    (sid : String) (x0 : Nat) (hx0 : synsetRow db' sid (t.ctx.lid sid) = some x0) :
    (synsetMembers db' x0 [t.lexid]).map (fun s => (s.id, s.entryId)) =
      ((sensePairs l).filter (fun p => p.2.1.synset == sid)).map (fun p => (p.2.1.id, p.1.id)) := by
  obtain ⟨rows, hq, hsub⟩ := synsetMembers_new t hfkS hnY sid x0 hx0
  -- all ranks are equal: the stable sort keeps insertion order
  have hall : ∀ r ∈ rows, r.srank = dr := fun r hr => by
    obtain ⟨p, hp, hpr⟩ := Forall2.exists_of_mem_right hsub r hr
    exact hpr.2.trans (hrank p (List.mem_filter.mp hp).1)
  rw [hq, sortBy_of_sorted _ _ (List.pairwise_of_forall_mem_list fun a ha b hb => by rw [hall a ha, hall b hb]; exact Nat.le_refl _),
    List.map_filterMap]
  exact Forall2.filterMap_eq_map _ _ (fun p r hr => by rw [senseData_new t hnE hnY hr.1]; rfl) hsub

/-- the members of a synset in the order of its `members` attribute: when the senses that
reference the synset are exactly the ids listed in `members` (each once) and each is ranked by its
position there, `get_synset_members` lists them in exactly that order -/
theorem C01_synset_members_listed_order {norm : String → String} {dr : Nat} {db db' : Db} {l : Lexicon}
    (t : AddTrace norm dr db db' l)
    (hfkS : ∀ o ∈ db.senses, o.lex ∈ db.lexicons.map (·.rowid))
    (hnE : (db.entries.map (·.rowid)).Nodup) (hnY : (db.synsets.map (·.rowid)).Nodup)
    (sid : String) (x0 : Nat) (hx0 : synsetRow db' sid (t.ctx.lid sid) = some x0)
    (M : List String) (hM : M.Nodup)
    (hcover : (((sensePairs l).filter (fun p => p.2.1.synset == sid)).map (fun p => p.2.1.id)).Perm M)
    (hrank : ∀ p ∈ sensePairs l, p.2.1.synset = sid → memberRank l dr p.2.1.id = M.idxOf p.2.1.id) :
    (synsetMembers db' x0 [t.lexid]).map (fun s => s.id) = M := by
  obtain ⟨rows, hq, hsub⟩ := synsetMembers_new t hfkS hnY sid x0 hx0
  have hkey : ∀ r ∈ rows, r.srank = M.idxOf r.id := fun r hr => by
    obtain ⟨p, hp, hpr⟩ := Forall2.exists_of_mem_right hsub r hr
    obtain ⟨hpm, hps⟩ := List.mem_filter.mp hp
    rw [hpr.2, hpr.1.1]
    exact hrank p hpm (by simpa using hps)
  rw [hq, map_filterMap_of_forall _ _ (·.id) _ fun r hr => by
    obtain ⟨p, -, hpr⟩ := Forall2.exists_of_mem_right hsub r ((mem_sortBy _ _ r).mp hr)
    exact ⟨_, senseData_new t hnE hnY hpr.1, hpr.1.1.symm⟩]
  -- a permutation of `members`, sorted by position in `members`
  have hperm : ((sortBy (·.srank) rows).map (·.id)).Perm M :=
    ((sortBy_perm _ _).map _).trans
      (Forall2.map_eq (fun r : RSense => r.id) (fun p : Entry × (Sense × Nat) => p.2.1.id) (fun _ _ hr => hr.1.1) hsub ▸ hcover)
  have hsorted : ((sortBy (·.srank) rows).map (·.id)).Pairwise (fun a b => M.idxOf a ≤ M.idxOf b) := by
    rw [List.pairwise_map]
    refine List.Pairwise.imp_of_mem ?_ (sortBy_sorted (fun r : RSense => r.srank) _)
    intro a b ha hb hab
    rw [← hkey a ((mem_sortBy _ _ a).mp ha), ← hkey b ((mem_sortBy _ _ b).mp hb)]
    exact hab
  exact List.Perm.eq_of_pairwise (le := fun a b => M.idxOf a ≤ M.idxOf b)
    (fun a b ha _ h1 h2 => idxOf_inj_of_mem M a b (hperm.subset ha) (Nat.le_antisymm h1 h2))
    hsorted (idxOf_pairwise_of_nodup M hM) hperm

/-- for a form row `f0` written by this add, `get_form_tags` reports exactly the `<Tag>`s of the document's form-like
elements (lemma or form, with the (id, rank) pair `FORM_QUERY` is asked for) that resolve to `f0`, in document order,
text and category unaltered — provided the tags already stored point at forms already stored -/
theorem C01_form_tags_end_to_end {norm : String → String} {dr : Nat} {db db' : Db} {l : Lexicon}
    (t : AddTrace norm dr db db' l)
    (hfk : ∀ o ∈ db.tags, o.form ∈ db.forms.map (·.rowid)) (f0 : Nat) (hnew : f0 ∉ db.forms.map (·.rowid)) :
    (formTags db' f0).map (fun r => (r.tag, r.category)) =
      ((tagPairs l).filter (fun q => formRow db' q.1.1.id (t.ctx.lid q.1.1.id) q.1.2.1 q.1.2.2.1 == some f0)).map
        (fun q => (q.2.text, q.2.category)) := by
  obtain ⟨⟨rows, hrows, hF⟩, -⟩ := addLexicon_tags_prons_tables t
  unfold formTags
  rw [hrows]
  exact looked_up_query (fun (q : (Entry × FL) × Tag) => formRow db' q.1.1.id (t.ctx.lid q.1.1.id) q.1.2.1 q.1.2.2.1)
    RTag.form (fun r : RTag => (r.tag, r.category)) (fun q => (q.2.text, q.2.category)) f0
    (fun o ho e => hnew (e ▸ hfk o ho)) (hF.imp fun q r hr => ⟨hr.1, by rw [hr.2.1, hr.2.2]⟩)

/-- for a form row `f0` written by this add, `get_form_pronunciations` reports exactly the `<Pronunciation>`s of the
document's form-like elements that resolve to `f0`, in document order, with value, variety, notation, phonemic flag
(default true) and audio unaltered — provided the pronunciations already stored point at forms already stored -/
theorem C01_form_pronunciations_end_to_end {norm : String → String} {dr : Nat} {db db' : Db} {l : Lexicon}
    (t : AddTrace norm dr db db' l)
    (hfk : ∀ o ∈ db.prons, o.form ∈ db.forms.map (·.rowid)) (f0 : Nat) (hnew : f0 ∉ db.forms.map (·.rowid)) :
    (formProns db' f0).map (fun r => (r.value, r.variety, r.notat, r.phonemic, r.audio)) =
      ((pronPairs l).filter (fun q => formRow db' q.1.1.id (t.ctx.lid q.1.1.id) q.1.2.1 q.1.2.2.1 == some f0)).map
        (fun q => (q.2.text, q.2.variety, q.2.notat, boolOr q.2.phonemic true, q.2.audio)) := by
  obtain ⟨-, ⟨rows, hrows, hF⟩⟩ := addLexicon_tags_prons_tables t
  unfold formProns
  rw [hrows]
  exact looked_up_query (fun (q : (Entry × FL) × Pron) => formRow db' q.1.1.id (t.ctx.lid q.1.1.id) q.1.2.1 q.1.2.2.1)
    RPron.form (fun r : RPron => (r.value, r.variety, r.notat, r.phonemic, r.audio))
    (fun q => (q.2.text, q.2.variety, q.2.notat, boolOr q.2.phonemic true, q.2.audio)) f0
    (fun o ho e => hnew (e ▸ hfk o ho)) (hF.imp fun q r hr => ⟨hr.1, hr.2⟩)

end WnVerif.Props.C01
