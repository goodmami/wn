/-
Appending a key unless it is there: how the keys of a Python dict grow under assignment, and the
unique column of a table under `INSERT OR IGNORE` / `INSERT … ON CONFLICT DO UPDATE`.
-/
namespace WnVerif

def insertNew {κ} [BEq κ] [LawfulBEq κ] (ks : List κ) (k : κ) : List κ := if k ∈ ks then ks else ks ++ [k]

variable {κ} [BEq κ] [LawfulBEq κ]

/-- the presence test as the models write it, `any (key · == k)` -/
theorem ite_any_beq {α β} (l : List α) (key : α → κ) (k : κ) (a b : β) :
    (if l.any (fun e => key e == k) then a else b) = if k ∈ l.map key then a else b := by
  have : l.any (fun e => key e == k) = true ↔ k ∈ l.map key := by
    simp only [List.any_eq_true, beq_iff_eq, List.mem_map]
  by_cases h : k ∈ l.map key
  · rw [if_pos h, if_pos (this.mpr h)]
  · rw [if_neg h, if_neg (mt this.mp h)]

theorem mem_insertNew (ks : List κ) (k x : κ) : x ∈ insertNew ks k ↔ x ∈ ks ∨ x = k := by
  unfold insertNew
  split
  · rename_i h
    exact ⟨Or.inl, fun hx => hx.elim id (· ▸ h)⟩
  · rw [List.mem_append, List.mem_singleton]

theorem nodup_insertNew (ks : List κ) (k : κ) (h : ks.Nodup) : (insertNew ks k).Nodup := by
  unfold insertNew
  split
  · exact h
  · rename_i hk
    exact List.nodup_append.mpr ⟨h, List.pairwise_singleton _ k, fun a ha b hb => by
      rw [List.mem_singleton.mp hb]; exact fun e => hk (e ▸ ha)⟩

/-- the keys after one "update the entry under `k`, or append `a`" step, for any update `g` that keeps keys (callers
bring their step into this shape by `ite_any_beq`) -/
theorem keys_upsert {α} (l : List α) (key : α → κ) (k : κ) (g : α → α) (a : α) (hg : ∀ e, key (g e) = key e)
    (ha : key a = k) : (if k ∈ l.map key then l.map g else l ++ [a]).map key = insertNew (l.map key) k := by
  rw [apply_ite (List.map key), List.map_map, List.map_append, List.map_singleton, ha]
  exact ite_congr rfl (fun _ => List.map_congr_left fun e _ => hg e) fun _ => rfl

theorem mem_foldl_insertNew (l ks : List κ) (x : κ) : x ∈ l.foldl insertNew ks ↔ x ∈ ks ∨ x ∈ l := by
  induction l generalizing ks with
  | nil => simp
  | cons a t ih => rw [List.foldl_cons, ih, mem_insertNew, List.mem_cons, or_assoc]

theorem nodup_foldl_insertNew (l ks : List κ) (h : ks.Nodup) : (l.foldl insertNew ks).Nodup := by
  induction l generalizing ks with
  | nil => exact h
  | cons a t ih => exact ih _ (nodup_insertNew ks a h)

/-- so the keys after a fold of such steps are the keys met, in order of first occurrence -/
theorem keys_foldl_eq_foldl_insertNew {σ α} (key : σ → List κ) (k : α → κ) (step : σ → α → σ)
    (h : ∀ s a, key (step s a) = insertNew (key s) (k a)) (l : List α) (s : σ) :
    key (l.foldl step s) = (l.map k).foldl insertNew (key s) := by
  induction l generalizing s with
  | nil => rfl
  | cons a t ih => rw [List.foldl_cons, ih, h, List.map_cons, List.foldl_cons]

end WnVerif
