/-
The LMF tree model (`Model/Lmf.lean`) seen from a parent element: lists of children loaded one by
one and how a failure among them propagates, the element names and child lists the serializer
produces, the children a loader picks by name, and the structural check `treeOk` one level at a time
(`treeOk_iff`, `Fits`).
-/
import WnVerif.Model.Lmf
namespace WnVerif.Lmf
open WnVerif.Doc

theorem mapM_map_ok {α β} (f : α → β) (g : β → R α) : ∀ (l : List α), (∀ a ∈ l, g (f a) = .ok a) → (l.map f).mapM g = .ok l := by
  intro l
  induction l with
  | nil => intro _; rfl
  | cons a t ih =>
    intro h
    rw [List.map_cons, List.mapM_cons, h a List.mem_cons_self, ih (fun x hx => h x (List.mem_cons_of_mem _ hx))]
    rfl

theorem map_map_id {α β} (f : α → β) (g : β → α) (l : List α) (h : ∀ a ∈ l, g (f a) = a) : (l.map f).map g = l := by
  rw [List.map_map]
  exact (List.map_congr_left h).trans (List.map_id l)

theorem bind_fails_left {α β} {m : R α} {f : α → R β} (h : ∃ e, m = .error e) : ∃ e, (m >>= f) = .error e := by
  obtain ⟨e, rfl⟩ := h; exact ⟨e, rfl⟩
theorem bind_fails_right {α β} {m : R α} {f : α → R β} (h : ∀ a, ∃ e, f a = .error e) : ∃ e, (m >>= f) = .error e := by
  cases m with
  | error e => exact ⟨e, rfl⟩
  | ok a => exact h a

theorem not_ok_error {α} (x : R α) (h : ∀ a, x ≠ .ok a) : ∃ e, x = .error e := by
  cases x with
  | error e => exact ⟨e, rfl⟩
  | ok a => exact absurd rfl (h a)

theorem mapM_error {α β} (f : α → R β) : ∀ (l : List α) (a : α), a ∈ l → (∃ e, f a = .error e) → ∃ e, l.mapM f = .error e := by
  intro l
  induction l with
  | nil => intro a ha; cases ha
  | cons b t ih =>
    intro a ha he
    rw [List.mapM_cons]
    rcases List.mem_cons.mp ha with rfl | ha
    · exact bind_fails_left he
    · exact bind_fails_right fun _ => bind_fails_left (ih a ha he)

theorem dumpLemma_name (v : String) (l : Lemma) : (dumpLemma v l).name = if l.external then "ExternalLemma" else "Lemma" := by
  unfold dumpLemma; cases l.external <;> rfl
theorem dumpForm_name (v : String) (f : Form) : (dumpForm v f).name = if f.external then "ExternalForm" else "Form" := by
  unfold dumpForm; cases f.external <;> rfl
theorem dumpSense_name (v : String) (s : Sense) : (dumpSense v s).name = if s.external then "ExternalSense" else "Sense" := by
  unfold dumpSense; cases s.external <;> rfl
theorem dumpEntry_name (v : String) (e : Entry) :
    (dumpEntry v e).name = if e.external then "ExternalLexicalEntry" else "LexicalEntry" := by
  unfold dumpEntry; cases e.external <;> rfl
theorem dumpSynset_name (v : String) (s : Synset) : (dumpSynset v s).name = if s.external then "ExternalSynset" else "Synset" := by
  unfold dumpSynset; cases s.external <;> rfl
theorem dumpLexicon_name (v : String) (l : Lexicon) :
    (dumpLexicon v l).name = if l.ext.isSome then "LexiconExtension" else "Lexicon" := rfl
theorem dumpFrame_name (v : String) (f : Frame) : (dumpFrame v f).name = "SyntacticBehaviour" := rfl
theorem dumpDep_name (n : String) (d : Dep) : (dumpDep n d).name = n := rfl

/-- the loader's test for the `External…` variant of an element reads the flag back -/
theorem ext_name (b : Bool) (n ne : String) (h : n ≠ ne) : ((if b then ne else n) == ne) = b := by
  cases b with
  | true => exact beq_self_eq_true ne
  | false => exact beq_false_of_ne h

theorem dumpLemma_children (v : String) (l : Lemma) : (dumpLemma v l).children = pronTagKids v l.prons l.tags := by
  unfold dumpLemma; cases l.external <;> rfl
theorem dumpForm_children (v : String) (f : Form) : (dumpForm v f).children = pronTagKids v f.prons f.tags := by
  unfold dumpForm; cases f.external <;> rfl
theorem dumpSense_children (v : String) (s : Sense) : (dumpSense v s).children =
    s.relations.map (dumpRel "SenseRelation") ++ s.examples.map dumpExample ++ s.counts.map dumpCount := by
  unfold dumpSense; cases s.external <;> rfl

theorem dumpEntry_children (v : String) (e : Entry) : (dumpEntry v e).children =
    e.lemma.toList.map (dumpLemma v) ++ e.forms.map (dumpForm v) ++ e.senses.map (dumpSense v) ++
      (if e.external || atLeast11 v then [] else e.frames.map (dumpFrame v)) := by
  unfold dumpEntry
  -- with `e.external` first in the disjunction both of its cases compute
  cases e.external with
  | false => cases e.lemma <;> rfl
  | true => cases e.lemma <;> exact (List.append_nil _).symm

/-- the `ILIDefinition` child, which `dumpSynset` writes in line -/
def dumpIliDef (d : IliDef) : Xml := .elem "ILIDefinition" (metaAttrs d.md) d.text []

theorem dumpSynset_children (v : String) (s : Synset) : (dumpSynset v s).children =
    s.definitions.map dumpDefinition ++ (if s.external then [] else s.iliDef.toList.map dumpIliDef) ++
      s.relations.map (dumpRel "SynsetRelation") ++ s.examples.map dumpExample := by
  unfold dumpSynset
  cases s.external with
  | false => cases s.iliDef <;> rfl
  | true => exact congrArg (· ++ _ ++ _) (List.append_nil _).symm

theorem dumpLexicon_children (v : String) (l : Lexicon) : (dumpLexicon v l).children =
    (if atLeast11 v then l.ext.toList.map (dumpDep "Extends") ++ l.requires.map (dumpDep "Requires") else []) ++
      l.entries.map (dumpEntry v) ++ l.synsets.map (dumpSynset v) ++ (if atLeast11 v then l.frames.map (dumpFrame v) else []) := by
  unfold dumpLexicon
  cases l.ext <;> rfl

/-! ### the children a loader picks by name

`kids (dumpX …) names` is computed in two `simp` steps (the `kids_dumpX` lemmas of `Props/C02.lean`).
The first (`simp only` with `dumpX_children`, `List.filter_append`, `filter_ite`, `List.filter_map`,
`contains_ite` and the `_name` lemmas above, or for leaf children the unfolded `dumpRel`, `dumpExample`, … with `Xml.name`) pushes the filter through `++` and `map` down to the element names,
which become literals; the second (`simp [filter_const]`) compares the literals.  In one step `simp`
would unfold `contains` under the binder before the names are known. -/

theorem filter_const {α} (b : Bool) (l : List α) : l.filter (fun _ => b) = if b then l else [] := by
  cases b <;> simp

theorem contains_ite (names : List String) (c : Prop) [Decidable c] (a b : String) :
    names.contains (if c then a else b) = if c then names.contains a else names.contains b :=
  apply_ite names.contains c a b

theorem filter_ite {α} (p : α → Bool) (c : Prop) [Decidable c] (a b : List α) :
    (if c then a else b).filter p = if c then a.filter p else b.filter p :=
  apply_ite (List.filter p) c a b

theorem allOk_eq_all (v : String) : ∀ cs, allOk v cs = cs.all (treeOk v)
  | [] => rfl
  | c :: t => by rw [allOk, List.all_cons, allOk_eq_all v t]

theorem nodupB_eq_true : ∀ (l : List String), nodupB l = true ↔ l.Nodup
  | [] => by simp [nodupB]
  | a :: t => by simp [nodupB, nodupB_eq_true t]

/-- the `_LIST_ELEMS` complement as a list of names, so that the single-valued children are `kids x svNames` -/
def svNames : List String := ["LexicalResource", "Lemma", "ExternalLemma", "ILIDefinition", "Extends"]

theorem singleValued_eq (n : String) : singleValued n = svNames.contains n := by
  simp only [singleValued, svNames, List.contains_cons, List.contains_nil, Bool.or_false, Bool.or_assoc]

/-- what the start handler asks of an element on behalf of its parent (the name exists in the
version) and below it -/
structure Fits (v : String) (c : Xml) : Prop where
  valid : c.name ∈ validElems v
  ok : treeOk v c = true

theorem treeOk_iff (v : String) (x : Xml) : treeOk v x = true ↔
    (∀ c ∈ x.children, Fits v c) ∧ ((x.children.filter (fun c => singleValued c.name)).map (fun c => keyOf c.name)).Nodup := by
  cases x with
  | elem n a t cs =>
    simp only [treeOk, childrenOk, allOk_eq_all, Bool.and_eq_true, List.all_eq_true, List.contains_iff_mem, nodupB_eq_true, Xml.children]
    exact ⟨fun h => ⟨fun c hc => ⟨h.1.1 c hc, h.2 c hc⟩, h.1.2⟩, fun h => ⟨⟨fun c hc => (h.1 c hc).valid, h.2⟩, fun c hc => (h.1 c hc).ok⟩⟩

/-- how every dumped element is shown to pass: its children fit, and at most one of them is
single-valued, so no key can repeat -/
theorem treeOk_of_fits {v : String} {x : Xml} (h : ∀ c ∈ x.children, Fits v c) (h1 : (kids x svNames).length ≤ 1) :
    treeOk v x = true := by
  refine (treeOk_iff v x).mpr ⟨h, ?_⟩
  simp only [singleValued_eq]
  change ((kids x svNames).map (fun c => keyOf c.name)).Nodup
  match kids x svNames, h1 with
  | [], _ => exact List.nodup_nil
  | [_], _ => exact List.nodup_cons.mpr ⟨List.not_mem_nil, List.nodup_nil⟩

theorem length_toList_map_le {α β} {o : Option α} {f : α → β} : (o.toList.map f).length ≤ 1 := by
  cases o with
  | none => exact Nat.zero_le 1
  | some _ => exact Nat.le_refl 1

theorem forall_mem_ite {α} {P : α → Prop} {c : Prop} [Decidable c] {a b : List α} (ha : c → ∀ x ∈ a, P x)
    (hb : ¬c → ∀ x ∈ b, P x) : ∀ x ∈ (if c then a else b), P x := by
  split
  · next h => exact ha h
  · next h => exact hb h

theorem valid_10 {v n : String} (h : n ∈ elems10) : n ∈ validElems v := by
  unfold validElems elems11
  split
  · exact h
  · exact List.mem_append_left _ h

theorem valid_11 {v n : String} (hv : atLeast11 v = true) (h : n ∈ elems11) : n ∈ validElems v := by
  unfold validElems
  rw [if_neg (by simpa [atLeast11] using hv)]
  exact h

/-- an element with an `External…` variant, which exists from 1.1 on -/
theorem valid_ext {v n ne : String} {b : Bool} (h : n ∈ elems10) (he : ne ∈ elems11) (hb : atLeast11 v = false → b = false) :
    (if b then ne else n) ∈ validElems v := by
  cases b with
  | false => exact valid_10 h
  | true => exact valid_11 (by cases hv : atLeast11 v with | true => rfl | false => cases hb hv) he

theorem fits_leaf {v n : String} {a : List (String × String)} {t : String} (h : n ∈ validElems v) : Fits v (.elem n a t []) :=
  ⟨h, rfl⟩

end WnVerif.Lmf
