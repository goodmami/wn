/- `Counter` / `_multiples` of `wn/validate.py`: an element is listed iff it occurs at least twice. -/
import WnVerif.Model.Validate
import WnVerif.Lemmas.Lists
import WnVerif.Lemmas.InsertNew
namespace WnVerif.Validate

theorem counter_snoc {κ} [BEq κ] (l : List κ) (x : κ) :
    counter (l ++ [x]) =
      if (counter l).any (fun e => e.1 == x) then (counter l).map (fun e => if e.1 == x then (e.1, e.2 + 1) else e)
      else counter l ++ [(x, 1)] :=
  foldl_snoc _ _ _ _

/-- `Counter(l)` in closed form: the distinct elements of `l` in the order of their first
occurrence, each with its number of occurrences -/
theorem counter_eq {κ} [BEq κ] [LawfulBEq κ] (l : List κ) :
    counter l = (l.foldl insertNew []).map fun k => (k, l.count k) := by
  induction l using snoc_induction with
  | nil => rfl
  | snoc l x ih =>
    have hkeys : (counter l).map (·.1) = l.foldl insertNew [] := by
      rw [ih, List.map_map]
      exact List.map_id _
    rw [counter_snoc, ite_any_beq (counter l) (·.1), hkeys, foldl_snoc, insertNew]
    split
    · -- seen before: the step adds to every entry the occurrences of its key in `[x]`
      rw [ih, List.map_map]
      refine List.map_congr_left fun k _ => ?_
      by_cases hk : k = x <;> simp [hk, List.count_append, Ne.symm]
    · -- new: `(x, 1)` is appended, and no earlier key is `x`
      rename_i hx
      rw [ih, List.map_append, List.map_singleton]
      congr 1
      · refine List.map_congr_left fun k hk => ?_
        have : x ≠ k := fun e => hx (e ▸ hk)
        simp [List.count_append, this]
      · have : x ∉ l := fun h => hx ((mem_foldl_insertNew l [] x).mpr (Or.inr h))
        simp [List.count_append, List.count_eq_zero_of_not_mem this]

theorem mem_counter {κ} [BEq κ] [LawfulBEq κ] (l : List κ) (k : κ) (c : Nat) :
    (k, c) ∈ counter l ↔ c = l.count k ∧ k ∈ l := by
  rw [counter_eq, List.mem_map]
  constructor
  · rintro ⟨_, hk, h⟩
    cases h
    exact ⟨rfl, ((mem_foldl_insertNew l [] k).mp hk).resolve_left List.not_mem_nil⟩
  · rintro ⟨rfl, hk⟩
    exact ⟨k, (mem_foldl_insertNew l [] k).mpr (Or.inr hk), rfl⟩

theorem mem_multiples {κ} [BEq κ] [LawfulBEq κ] (l : List κ) (k : κ) (c : Nat) :
    (k, c) ∈ multiples l ↔ c = l.count k ∧ 2 ≤ c := by
  unfold multiples
  rw [List.mem_filter, mem_counter, decide_eq_true_eq, and_assoc]
  refine and_congr_right fun hc => and_iff_right_of_imp fun h2 => ?_
  exact List.count_pos_iff.mp (by omega)

theorem mem_multiples_keys {κ} [BEq κ] [LawfulBEq κ] (l : List κ) (k : κ) :
    k ∈ (multiples l).map (·.1) ↔ 2 ≤ l.count k := by
  simp only [List.mem_map, Prod.exists, mem_multiples]
  constructor
  · rintro ⟨_, _, ⟨rfl, h⟩, rfl⟩; exact h
  · exact fun h => ⟨k, _, ⟨rfl, h⟩, rfl⟩

/-- keys of a comprehension over `_multiples(xs).items()` -/
theorem mem_keys_map_multiples {κ α} [BEq κ] [LawfulBEq κ] (l : List κ) (f : κ × Nat → String × α) (k : String) :
    k ∈ ((multiples l).map f).map (·.1) ↔ ∃ x, 2 ≤ l.count x ∧ (f (x, l.count x)).1 = k := by
  simp only [List.map_map, List.mem_map, Prod.exists, mem_multiples, Function.comp]
  constructor
  · rintro ⟨x, _, ⟨rfl, h⟩, hk⟩; exact ⟨x, h, hk⟩
  · rintro ⟨x, h, hk⟩; exact ⟨x, _, ⟨rfl, h⟩, hk⟩

end WnVerif.Validate
