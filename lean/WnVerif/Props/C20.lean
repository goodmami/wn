/-
C20 — invalid WN-LMF is rejected as a whole; `is_lmf` agrees with the header check of `load`.
Theorems over `Model/LmfScan.lean` (header, `is_lmf`) and the structural checks of the loader in
`Model/Lmf.lean` (`treeOk`, `loadTree`), plus the obligations that tie the model's tables to the
tables regenerated from `wn/lmf.py` (`Gen/Lmf.lean`), and at the end a witness of known finding F15
about `scan_lexicons`.
-/
import WnVerif.Model.LmfScan
import WnVerif.Lemmas.LmfTree
import WnVerif.Gen.Lmf
namespace WnVerif.Props.C20
open WnVerif.LmfScan WnVerif.Lmf

theorem C20_gen_xmldecl : Gen.lmf_xmldecl = xmldecl := rfl
theorem C20_gen_versions : Gen.lmf_versions = versions := rfl
theorem C20_gen_doctypes : Gen.lmf_doctypes = versions.map (fun v => (doctypeOf v, v)) := by decide +kernel

/-- the four ties on the element tables that follow, by a single kernel evaluation: most of its work goes
into the byte array of each element name, and is shared this way -/
theorem gen_elems_laws :
    ((∀ n ∈ elems10, n ∈ Gen.lmf_elems_1_0.map (·.1)) ∧ (∀ n ∈ Gen.lmf_elems_1_0.map (·.1), n ∈ elems10)) ∧
    ((∀ n ∈ elems11, n ∈ Gen.lmf_elems_1_1.map (·.1)) ∧ (∀ n ∈ Gen.lmf_elems_1_1.map (·.1), n ∈ elems11)) ∧
    (∀ p ∈ Gen.lmf_elems_1_1, keyOf p.1 = p.2) ∧
    (∀ p ∈ Gen.lmf_elems_1_1, singleValued p.1 = !Gen.lmf_list_elems.contains p.1) := by
  decide +kernel

/-- the element names of 1.0 are those of the source's 1.0 table; the keys of that table are not
compared with `keyOf` (only those of the 1.1 table are, in `C20_gen_keys`) -/
theorem C20_gen_elems_1_0 : (∀ n ∈ elems10, n ∈ Gen.lmf_elems_1_0.map (·.1)) ∧ (∀ n ∈ Gen.lmf_elems_1_0.map (·.1), n ∈ elems10) :=
  gen_elems_laws.1
theorem C20_gen_elems_1_1 : (∀ n ∈ elems11, n ∈ Gen.lmf_elems_1_1.map (·.1)) ∧ (∀ n ∈ Gen.lmf_elems_1_1.map (·.1), n ∈ elems11) :=
  gen_elems_laws.2.1
theorem C20_gen_elems_later : Gen.lmf_elems_1_2 = Gen.lmf_elems_1_1 ∧ Gen.lmf_elems_1_3 = Gen.lmf_elems_1_1 := ⟨rfl, rfl⟩
theorem C20_gen_keys : ∀ p ∈ Gen.lmf_elems_1_1, keyOf p.1 = p.2 := gen_elems_laws.2.2.1
/-- single-valued = valid element that is not in `_LIST_ELEMS` -/
theorem C20_gen_single_valued : ∀ p ∈ Gen.lmf_elems_1_1, singleValued p.1 = !Gen.lmf_list_elems.contains p.1 :=
  gen_elems_laws.2.2.2

theorem rstrip_prefix (s : List Char) : ∃ t, s = rstrip s ++ t := by
  unfold rstrip
  refine ⟨(s.reverse.takeWhile isAsciiWs).reverse, ?_⟩
  rw [← List.reverse_append, List.takeWhile_append_dropWhile, List.reverse_reverse]

theorem dq_eq_self : ∀ (r a : List Char), dq r = a → '"' ∉ a → r = a
  | [], _, h, _ => h
  | c :: r, [], h, _ => nomatch h
  | c :: r, d :: a, h, hq => by
    obtain ⟨hc, hr⟩ := List.cons.inj h
    have hd : d ≠ '"' := fun e => hq (e ▸ List.mem_cons_self)
    have : c = d := by
      dsimp only at hc
      split at hc
      · exact absurd hc.symm hd
      · exact hc
    rw [this, dq_eq_self r a hr (fun h => hq (List.mem_cons_of_mem _ h))]

theorem header_isXml (l1 : List Char) (h : dq (rstrip l1) = xmldecl.toList) : isXml l1 = true := by
  -- split the declaration after `<?xml `: that part has no `"`, so `dq` left it as it was in `l1`
  obtain ⟨t, ht⟩ := rstrip_prefix l1
  have hx : xmldecl = "<?xml " ++ "version=\"1.0\" encoding=\"UTF-8\"?>" := by simp [xmldecl]
  rw [hx, String.toList_append, dq, List.map_eq_append_iff] at h
  obtain ⟨r1, r2, hr, h1, _⟩ := h
  rw [isXml, List.isPrefixOf_iff_prefix, ht, hr, dq_eq_self r1 _ h1 (by decide +kernel), List.append_assoc]
  exact List.prefix_append _ _

/-- `is_lmf()` is true exactly for the files whose header `load()` accepts -/
theorem C20_islmf_iff_header (l1 l2 : List Char) : isLmf l1 l2 = true ↔ (readHeader l1 l2).isSome = true := by
  unfold isLmf
  constructor
  · intro h; simp only [Bool.and_eq_true] at h; exact h.2
  · intro h
    simp only [Bool.and_eq_true]
    refine ⟨?_, h⟩
    unfold readHeader at h
    split at h
    · simp at h
    · rename_i hne
      apply header_isXml
      simpa using hne

/-- an accepted header names a supported version, and the second line is that version's DOCTYPE
(modulo trailing whitespace and the kind of quotes) -/
theorem C20_header_version (l1 l2 : List Char) (v : String) (h : readHeader l1 l2 = some v) :
    v ∈ versions ∧ dq (rstrip l1) = xmldecl.toList ∧ dq (rstrip l2) = (doctypeOf v).toList := by
  unfold readHeader at h
  split at h
  · simp at h
  · rename_i hne
    have h1 := List.mem_of_find?_eq_some h
    have h2 := List.find?_some h
    exact ⟨h1, by simpa using hne, by simpa using h2⟩

/-- without the XML declaration, or without a supported DOCTYPE, the header is rejected -/
theorem C20_header_rejects_no_decl (l1 l2 : List Char) (h : dq (rstrip l1) ≠ xmldecl.toList) : readHeader l1 l2 = none := by
  unfold readHeader; simp [h]
theorem C20_header_rejects_no_doctype (l1 l2 : List Char) (h : ∀ v ∈ versions, dq (rstrip l2) ≠ (doctypeOf v).toList) :
    readHeader l1 l2 = none := by
  unfold readHeader
  split
  · rfl
  · rw [List.find?_eq_none]
    intro v hv
    simpa using h v hv

/-- `s` is `t` or nested somewhere inside it -/
inductive Sub : Xml → Xml → Prop
  | refl (t) : Sub t t
  | child {s c t} : c ∈ t.children → Sub s c → Sub s t

theorem treeOk_sub (v : String) (s t : Xml) (hs : Sub s t) (h : treeOk v t = true) : treeOk v s = true := by
  induction hs with
  | refl => exact h
  | child hc _ ih => exact ih (((treeOk_iff v _).mp h).1 _ hc).ok

/-- `loadTree` checks the root as the only child of a nameless parent (the start handler's checks are per parent), so an
accepted tree has `treeOk` at the root and, by `treeOk_iff`, at every sub-tree -/
theorem loadTree_eq_ok (v : String) (t : Xml) (r : Doc.Resource) (h : loadTree v t = .ok r) :
    t.name = "LexicalResource" ∧ (∀ s, Sub s t → treeOk v s = true) ∧
      (kids t ["Lexicon", "LexiconExtension"]).mapM loadLexicon = .ok r.lexicons := by
  unfold loadTree at h
  by_cases hn : (t.name != "LexicalResource") = true
  · simp only [hn] at h; cases h
  by_cases hok : treeOk v (.elem "" [] "" [t]) = true
  · simp only [hn, hok] at h
    refine ⟨by simpa using hn, fun s hs => treeOk_sub v s t hs (((treeOk_iff v _).mp hok).1 t List.mem_cons_self).ok, ?_⟩
    cases hl : (kids t ["Lexicon", "LexiconExtension"]).mapM loadLexicon with
    | error e => rw [hl] at h; cases h
    | ok lexs => rw [hl] at h; cases h; rfl
  · simp only [hn, hok] at h; cases h

/-- a document using, at any depth, an element that does not exist in its declared version is
rejected -/
theorem C20_unknown_element_rejected (v : String) (t s c : Xml) (hs : Sub s t) (hc : c ∈ s.children)
    (hbad : c.name ∉ validElems v) : ∃ e, loadTree v t = .error e :=
  not_ok_error _ fun r h => hbad (((treeOk_iff v s).mp ((loadTree_eq_ok v t r h).2.1 s hs)).1 c hc).valid

/-- a root that is not `LexicalResource` is rejected -/
theorem C20_root_checked (v : String) (t : Xml) (h : t.name ≠ "LexicalResource") : ∃ e, loadTree v t = .error e :=
  not_ok_error _ fun r hr => h (loadTree_eq_ok v t r hr).1

/-- a parent with two children stored under the same single-valued key (two `Lemma`s, a `Lemma` and
an `ExternalLemma`, two `ILIDefinition`s, two `Extends`) is rejected -/
theorem C20_repeated_single_rejected (v : String) (t s : Xml) (hs : Sub s t)
    (hdup : ¬ ((s.children.filter (fun c => singleValued c.name)).map (fun c => keyOf c.name)).Nodup) :
    ∃ e, loadTree v t = .error e :=
  not_ok_error _ fun r h => hdup ((treeOk_iff v s).mp ((loadTree_eq_ok v t r h).2.1 s hs)).2

theorem reqAttr_missing (x : Xml) (k : String) (h : attr x k = none) : ∃ e, reqAttr x k = .error e := by
  unfold reqAttr; rw [h]; exact ⟨_, rfl⟩

/-- a `Lexicon` / `LexiconExtension` without `id` (or `version`) is rejected, whatever else it contains -/
theorem C20_lexicon_without_id_rejected (x : Xml) (h : attr x "id" = none) : ∃ e, loadLexicon x = .error e := by
  unfold loadLexicon
  dsimp only
  -- with or without an `Extends` child (`split`), five binds load the children before `id` is read, and `version` is read next
  split <;> exact bind_fails_right fun _ => bind_fails_right fun _ => bind_fails_right fun _ => bind_fails_right fun _ =>
    bind_fails_right fun _ => bind_fails_left (reqAttr_missing x "id" h)

theorem C20_lexicon_without_version_rejected (x : Xml) (h : attr x "version" = none) : ∃ e, loadLexicon x = .error e := by
  unfold loadLexicon
  dsimp only
  split <;> exact bind_fails_right fun _ => bind_fails_right fun _ => bind_fails_right fun _ => bind_fails_right fun _ =>
    bind_fails_right fun _ => bind_fails_right fun _ => bind_fails_left (reqAttr_missing x "version" h)

theorem C20_sense_without_id_rejected (x : Xml) (h : attr x "id" = none) : ∃ e, loadSense x = .error e := by
  unfold loadSense
  exact bind_fails_right fun _ => bind_fails_right fun _ => bind_fails_left (reqAttr_missing x "id" h)

theorem C20_synset_without_id_rejected (b : Bool) (x : Xml) (h : attr x "id" = none) : ∃ e, loadSynset b x = .error e := by
  unfold loadSynset
  dsimp only
  by_cases hc : (x.name == "ExternalSynset" && !b) = true
  · rw [if_pos hc]; exact ⟨_, rfl⟩
  · rw [if_neg hc]; exact bind_fails_left (reqAttr_missing x "id" h)

theorem C20_entry_without_id_rejected (b : Bool) (x : Xml) (h : attr x "id" = none) : ∃ e, loadEntry b x = .error e := by
  unfold loadEntry
  dsimp only
  by_cases hc : (x.name == "ExternalLexicalEntry" && !b) = true
  · rw [if_pos hc]; exact ⟨_, rfl⟩
  · rw [if_neg hc]; exact bind_fails_left (reqAttr_missing x "id" h)

/-- errors propagate: if any lexicon of the document is rejected, the whole load is rejected -/
theorem C20_rejected_as_a_whole (v : String) (t x : Xml) (hx : x ∈ kids t ["Lexicon", "LexiconExtension"])
    (hbad : ∃ e, loadLexicon x = .error e) : ∃ e, loadTree v t = .error e :=
  not_ok_error _ fun r h => by
    obtain ⟨e, he⟩ := mapM_error loadLexicon _ x hx hbad
    rw [(loadTree_eq_ok v t r h).2.2] at he
    cases he

/-- kernel-checked witness of known finding F15: the regular-expression scan of `scan_lexicons` returns
the raw attribute text `Tom &amp; Jerry` for a label that `load()` reports as `Tom & Jerry` -/
theorem C20_scan_label_entity_counterexample :
    scanLexicons "<Lexicon id=\"a\" label=\"Tom &amp; Jerry\" version=\"1\">".toList =
      some [{ id := "a", version := "1", label := some "Tom &amp; Jerry", ext := none }] := by
  -- the literal is `String.ofList` of its characters by `rfl`; left as it is, the kernel would decode its byte array
  rw [String.toList_ofList]
  decide +kernel

end WnVerif.Props.C20
