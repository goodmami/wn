/- The tables after one `addLexicon`, in terms of the document: for each table the old rows, then rows that
mirror a list of the document, their references resolved in the final parent tables.  Of the tables behind `words()`
only the entry rows are here (`EntryRows`); forms, synsets, tags and pronunciations are theorems of `Props/C01`. -/
import WnVerif.Lemmas.AddTrace
namespace WnVerif.Db
open WnVerif WnVerif.Doc

/-- what `_insert_entries` appends for the entries `es`: row-wise correspondence, strictly increasing
rowids above every earlier rowid, and no (id, lexicon) pair used twice -/
structure EntryRows (c : Ctx) (old : List REntry) (es : List Entry) (rows : List REntry) : Prop where
  len : rows.length = es.length
  spec : ∀ i (h1 : i < es.length) (h2 : i < rows.length),
    (rows[i]).id = (es[i]).id ∧ (rows[i]).lex = c.lexid ∧ (rows[i]).md = (es[i]).md ∧
      ∃ lem, (es[i]).lemma = some lem ∧ (rows[i]).pos = lem.pos
  above : ∀ r ∈ rows, ∀ o ∈ old, o.rowid < r.rowid
  incr : rows.Pairwise (fun a b => a.rowid < b.rowid)
  fresh : ∀ r ∈ rows, ∀ o ∈ old, ¬(o.id = r.id ∧ o.lex = c.lexid)
  distinct : rows.Pairwise (fun a b => a.id ≠ b.id)

/-- `spec` as the element-wise relation the other table theorems are stated with -/
theorem EntryRows.rows {c : Ctx} {old : List REntry} {es : List Entry} {rows : List REntry} (h : EntryRows c old es rows) :
    Forall2 (fun e r => r.id = e.id ∧ r.lex = c.lexid ∧ r.md = e.md ∧ ∃ lem, e.lemma = some lem ∧ r.pos = lem.pos) es rows :=
  Forall2.of_index es rows h.len.symm h.spec

private theorem entryStep_spec {c : Ctx} {db db1 : Db} {e : Entry} (h : entryStep c db e = .ok db1) :
    ∃ r, db1 = { db with entries := db.entries ++ [r] } ∧ r.id = e.id ∧ r.lex = c.lexid ∧ r.md = e.md ∧
      (∃ lem, e.lemma = some lem ∧ r.pos = lem.pos) ∧ (∀ o ∈ db.entries, o.rowid < r.rowid) ∧
      (∀ o ∈ db.entries, ¬(o.id = e.id ∧ o.lex = c.lexid)) := by
  obtain ⟨lem, hl, hnone, rfl⟩ := entryStep_ok h
  refine ⟨_, rfl, rfl, rfl, rfl, ⟨lem, hl, rfl⟩, fun o ho => lt_nextId _ _ (List.mem_map_of_mem ho), fun o ho ⟨h1, h2⟩ => ?_⟩
  -- the UNIQUE(id, lexicon) check found no row
  have := List.find?_eq_none.mp (Option.map_eq_none_iff.mp hnone) o ho
  simp [h1, h2] at this

theorem insertEntries_rows {c : Ctx} : ∀ (es : List Entry) (db db' : Db), es.foldlM (entryStep c) db = .ok db' →
    ∃ rows, db' = { db with entries := db.entries ++ rows } ∧ EntryRows c db.entries es rows := by
  refine foldlM_ok_induct (entryStep c)
    (fun es db db' => ∃ rows, db' = { db with entries := db.entries ++ rows } ∧ EntryRows c db.entries es rows)
    (fun db => ⟨[], by rw [List.append_nil],
      { len := rfl, spec := fun i h1 => absurd h1 (Nat.not_lt_zero i), above := nofun, incr := .nil, fresh := nofun, distinct := .nil }⟩) ?_
  rintro e t db db1 db' h1 - ⟨rows, rfl, hr⟩
  obtain ⟨r, rfl, a1, a2, a3, a4, a5, a6⟩ := entryStep_spec h1
  -- the head row `r` was written into `db.entries`; the rows of the tail are described relative to `db.entries ++ [r]`,
  -- so what `hr` says of them against the old rows it says against `r` too
  have hold : ∀ {o}, o ∈ db.entries → o ∈ db.entries ++ [r] := List.mem_append_left _
  have hr0 : r ∈ db.entries ++ [r] := List.mem_append_right _ (List.mem_singleton_self r)
  refine ⟨r :: rows, by rw [List.append_assoc]; rfl, {
    len := by simp [hr.len]
    spec := fun i h1' h2' => ?_
    above := fun x hx o ho => ?_
    incr := List.pairwise_cons.mpr ⟨fun x hx => hr.above x hx r hr0, hr.incr⟩
    fresh := fun x hx o ho => ?_
    distinct := List.pairwise_cons.mpr ⟨fun x hx hxe => hr.fresh x hx r hr0 ⟨hxe, a2⟩, hr.distinct⟩ }⟩
  · cases i with
    | zero => exact ⟨a1, a2, a3, a4⟩
    | succ j => exact hr.spec j (Nat.lt_of_succ_lt_succ h1') (Nat.lt_of_succ_lt_succ h2')
  · rcases List.mem_cons.mp hx with rfl | hx
    · exact a5 o ho
    · exact hr.above x hx o (hold ho)
  · rcases List.mem_cons.mp hx with rfl | hx
    · rw [a1]; exact a6 o ho
    · exact hr.fresh x hx o (hold ho)

/-- of the sense row written for the sense `si.1` (position `si.2`) of entry `e`: its id, owner and entry rank, and its
entry and synset as resolved in the tables `fr` (the other columns are in `C01.SenseRowOf`, relative to a store, and,
for the synset rank, in `addLexicon_sense_rows`) -/
def SenseRowT (c : Ctx) (fr : List REntry × List RSynset) (e : Entry) (si : Sense × Nat) (r : RSense) : Prop :=
  r.id = si.1.id ∧ r.lex = c.lexid ∧ r.erank = si.2 ∧ entryRowE' fr.1 e.id (c.lid e.id) = some r.entry ∧
  synsetRowY' fr.2 si.1.synset (c.lid si.1.synset) = some r.synset

/-- the senses table: `SenseRowT` and the synset rank (metadata and the lexicalized flag are in `C01.C01_sense_rows`) -/
theorem addLexicon_sense_rows {norm : String → String} {dr : Nat} {db db' : Db} {l : Lexicon}
    (t : AddTrace norm dr db db' l) :
    db'.entries = t.d3.entries ∧ db'.synsets = t.d2.synsets ∧
    ∃ rows, db'.senses = db.senses ++ rows ∧
      Forall2 (fun (p : Entry × (Sense × Nat)) row => SenseRowT t.ctx (db'.entries, db'.synsets) p.1 p.2 row ∧
        row.srank = memberRank l dr p.2.1.id) (sensePairs l) rows ∧
      ((db.senses.map (·.rowid)).Nodup → (db'.senses.map (·.rowid)).Nodup) := by
  obtain ⟨S, _, _, h1, -, -, e6⟩ := insertSenses_split t.sen
  obtain rfl : S = db'.senses := (congrArg Db.senses e6 :).symm
  obtain ⟨-, rows, hrows, hF⟩ := foldlM_rows1 (fun d => d.senses) (fun d => (d.entries, d.synsets)) _
    (fun fr (p : Entry × (Sense × Nat)) row => SenseRowT t.ctx fr p.1 p.2 row ∧ row.srank = memberRank l dr p.2.1.id)
    (fun b p b' hh => by
      obtain ⟨_, _, he, hs, rfl⟩ := senseStep_ok hh
      exact ⟨rfl, _, rfl, ⟨rfl, rfl, rfl, he, hs⟩, rfl⟩) _ _ _ h1
  refine ⟨(congrArg Db.entries t.stages.d3 :).symm, (congrArg Db.synsets t.stages.d2 :).symm, rows, hrows, hF, ?_⟩
  exact foldlM_inv (fun d => (d.senses.map (·.rowid)).Nodup)
    (fun b p b' hh hb => by
      obtain ⟨_, _, -, -, rfl⟩ := senseStep_ok hh
      exact nodup_append_nextId (fun r : RSense => r.rowid) _ _ rfl hb) h1

theorem addLexicon_sense_table {norm : String → String} {dr : Nat} {db db' : Db} {l : Lexicon}
    (t : AddTrace norm dr db db' l) :
    db'.entries = t.d3.entries ∧ db'.synsets = t.d2.synsets ∧
    ∃ rows, db'.senses = db.senses ++ rows ∧
      Forall2 (fun (p : Entry × (Sense × Nat)) row => SenseRowT t.ctx (db'.entries, db'.synsets) p.1 p.2 row) (sensePairs l) rows ∧
      ((db.senses.map (·.rowid)).Nodup → (db'.senses.map (·.rowid)).Nodup) :=
  have ⟨hE, hY, rows, hrows, hF, hn⟩ := addLexicon_sense_rows t
  ⟨hE, hY, rows, hrows, hF.imp fun _ _ h => h.1, hn⟩

/-- the row written for relation `r` of synset `ss`, relative to fixed `synsets` / `relation_types` tables -/
def SynRelRowOf (c : Ctx) (fr : List RSynset × List (Nat × String)) (ss : Synset) (r : Relation) (row : RRel) : Prop :=
  row.lex = c.lexid ∧ synsetRowY' fr.1 ss.id (c.lid ss.id) = some row.source ∧
  synsetRowY' fr.1 r.target (c.lid r.target) = some row.target ∧ lookupId fr.2 r.relType = some row.type ∧ row.md = r.md

theorem addLexicon_synrel_table {norm : String → String} {dr : Nat} {db db' : Db} {l : Lexicon}
    (t : AddTrace norm dr db db' l) :
    db'.reltypes = (updateLookups db l).reltypes ∧ db'.synsets = t.d2.synsets ∧
    ∃ rows, db'.synrels = db.synrels ++ rows ∧
      Forall2 (fun (p : Synset × Relation) row => SynRelRowOf t.ctx (db'.synsets, db'.reltypes) p.1 p.2 row) (synRelPairs l) rows := by
  have hT := t.reltypes_eq
  obtain ⟨R1, _, _, h1, -, -, e8⟩ := insertRelations_split t.rel
  obtain rfl : R1 = db'.synrels := (congrArg Db.synrels e8 :).symm
  obtain ⟨-, rows, hrows, hF⟩ := foldlM_rows1 (fun d => d.synrels) (fun d => (d.synsets, d.reltypes)) _
    (fun fr (p : Synset × Relation) row => SynRelRowOf t.ctx fr p.1 p.2 row)
    (fun b p b' hh => by
      obtain ⟨_, _, _, h1, h2, h3, rfl⟩ := synRelStep_ok hh
      exact ⟨rfl, _, rfl, rfl, h1, h2, h3, rfl⟩) _ _ _ h1
  exact ⟨hT, (congrArg Db.synsets t.stages.d2 :).symm, rows, hrows, hT ▸ hF⟩

def SenseRelRowOf (c : Ctx) (fr : List RSense × List (Nat × String)) (p : String × Relation) (row : RRel) : Prop :=
  row.lex = c.lexid ∧ senseRowS' fr.1 p.1 (c.lid p.1) = some row.source ∧
  senseRowS' fr.1 p.2.target (c.lid p.2.target) = some row.target ∧ lookupId fr.2 p.2.relType = some row.type ∧ row.md = p.2.md

theorem addLexicon_senserel_table {norm : String → String} {dr : Nat} {db db' : Db} {l : Lexicon}
    (t : AddTrace norm dr db db' l) :
    db'.reltypes = (updateLookups db l).reltypes ∧
    ∃ rows, db'.senserels = db.senserels ++ rows ∧
      Forall2 (SenseRelRowOf t.ctx (db'.senses, db'.reltypes)) (senseRelPairs l) rows := by
  have hT := t.reltypes_eq
  obtain ⟨_, R2, _, -, h2, -, e8⟩ := insertRelations_split t.rel
  obtain rfl : R2 = db'.senserels := (congrArg Db.senserels e8 :).symm
  obtain ⟨-, rows, hrows, hF⟩ := foldlM_rows1 (fun d => d.senserels) (fun d => (d.senses, d.reltypes)) (senseRelStep t.ctx)
    (fun fr p row => SenseRelRowOf t.ctx fr p row)
    (fun b p b' hh => by
      obtain ⟨_, _, _, h1, h2, h3, rfl⟩ := senseRelStep_ok hh
      exact ⟨rfl, _, rfl, rfl, h1, h2, h3, rfl⟩) _ _ _ h2
  exact ⟨hT, rows, hrows, hT ▸ hF⟩

def SenseSynRelRowOf (c : Ctx) (fr : List RSense × List RSynset × List (Nat × String)) (p : String × Relation) (row : RRel) : Prop :=
  row.lex = c.lexid ∧ senseRowS' fr.1 p.1 (c.lid p.1) = some row.source ∧
  synsetRowY' fr.2.1 p.2.target (c.lid p.2.target) = some row.target ∧ lookupId fr.2.2 p.2.relType = some row.type ∧ row.md = p.2.md

theorem addLexicon_sensesynrel_table {norm : String → String} {dr : Nat} {db db' : Db} {l : Lexicon}
    (t : AddTrace norm dr db db' l) :
    db'.reltypes = (updateLookups db l).reltypes ∧
    ∃ rows, db'.sensesynrels = db.sensesynrels ++ rows ∧
      Forall2 (SenseSynRelRowOf t.ctx (db'.senses, db'.synsets, db'.reltypes)) (senseSynRelPairs l) rows := by
  have hT := t.reltypes_eq
  obtain ⟨_, _, _, -, -, h3, -⟩ := insertRelations_split t.rel
  obtain ⟨-, rows, hrows, hF⟩ := foldlM_rows1 (fun d => d.sensesynrels) (fun d => (d.senses, d.synsets, d.reltypes))
    (senseSynRelStep t.ctx) (fun fr p row => SenseSynRelRowOf t.ctx fr p row)
    (fun b p b' hh => by
      obtain ⟨_, _, _, h1, h2, h3, rfl⟩ := senseSynRelStep_ok hh
      exact ⟨rfl, _, rfl, rfl, h1, h2, h3, rfl⟩) _ _ _ h3
  exact ⟨hT, rows, hrows, hT ▸ hF⟩

def DefRowOf (c : Ctx) (Y : List RSynset) (ss : Synset) (d : Definition) (row : RDef) : Prop :=
  row.lex = c.lexid ∧ synsetRowY' Y ss.id (c.lid ss.id) = some row.synset ∧ row.text = d.text ∧ row.language = d.language ∧ row.md = d.md
def SynExRowOf (c : Ctx) (Y : List RSynset) (ss : Synset) (x : Example) (row : RExample) : Prop :=
  row.lex = c.lexid ∧ synsetRowY' Y ss.id (c.lid ss.id) = some row.owner ∧ row.text = x.text ∧ row.language = x.language ∧ row.md = x.md
def SenseExRowOf (c : Ctx) (S : List RSense) (s : Sense) (x : Example) (row : RExample) : Prop :=
  row.lex = c.lexid ∧ senseRowS' S s.id (c.lid s.id) = some row.owner ∧ row.text = x.text ∧ row.language = x.language ∧ row.md = x.md

theorem addLexicon_defs_tables {norm : String → String} {dr : Nat} {db db' : Db} {l : Lexicon}
    (t : AddTrace norm dr db db' l) :
    (∃ rows, db'.defs = db.defs ++ rows ∧
      Forall2 (fun (p : Synset × Definition) row => DefRowOf t.ctx db'.synsets p.1 p.2 row) (defPairs l) rows) ∧
    (∃ rows, db'.synexs = db.synexs ++ rows ∧
      Forall2 (fun (p : Synset × Example) row => SynExRowOf t.ctx db'.synsets p.1 p.2 row) (synExPairs l) rows) ∧
    (∃ rows, db'.sensexs = db.sensexs ++ rows ∧
      Forall2 (fun (p : Sense × Example) row => SenseExRowOf t.ctx db'.senses p.1 p.2 row) (senseExPairs l) rows) := by
  obtain ⟨D, X, _, h1, h2, h3, e⟩ := insertDefsExamples_split t.dx
  obtain rfl : D = db'.defs := (congrArg Db.defs e :).symm
  obtain rfl : X = db'.sensexs := (congrArg Db.sensexs e :).symm
  obtain ⟨-, rows1, hr1, hF1⟩ := foldlM_rows1 (fun d => d.defs) (fun d => d.synsets) _
    (fun Y (p : Synset × Definition) row => DefRowOf t.ctx Y p.1 p.2 row)
    (fun b p b' hh => by
      obtain ⟨_, h1, rfl⟩ := defStep_ok hh
      exact ⟨rfl, _, rfl, rfl, h1, rfl, rfl, rfl⟩) _ _ _ h1
  obtain ⟨-, rows2, hr2, hF2⟩ := foldlM_rows1 (fun d => d.sensexs) (fun d => d.senses) _
    (fun S (p : Sense × Example) row => SenseExRowOf t.ctx S p.1 p.2 row)
    (fun b p b' hh => by
      obtain ⟨_, h1, rfl⟩ := senseExampleStep_ok hh
      exact ⟨rfl, _, rfl, rfl, h1, rfl, rfl, rfl⟩) _ _ _ h2
  obtain ⟨-, rows3, hr3, hF3⟩ := foldlM_rows1 (fun d => d.synexs) (fun d => d.synsets) _
    (fun Y (p : Synset × Example) row => SynExRowOf t.ctx Y p.1 p.2 row)
    (fun b p b' hh => by
      obtain ⟨_, h1, rfl⟩ := synsetExampleStep_ok hh
      exact ⟨rfl, _, rfl, rfl, h1, rfl, rfl, rfl⟩) _ _ _ h3
  exact ⟨⟨rows1, hr1, hF1⟩, ⟨rows3, hr3, hF3⟩, ⟨rows2, hr2, hF2⟩⟩

def CountRowOf (c : Ctx) (S : List RSense) (s : Sense) (x : Count) (row : RCount) : Prop :=
  row.lex = c.lexid ∧ senseRowS' S s.id (c.lid s.id) = some row.sense ∧ row.value = x.value ∧ row.md = x.md

theorem addLexicon_counts_table {norm : String → String} {dr : Nat} {db db' : Db} {l : Lexicon}
    (t : AddTrace norm dr db db' l) :
    ∃ rows, db'.counts = db.counts ++ rows ∧
      Forall2 (fun (p : Sense × Count) row => CountRowOf t.ctx db'.senses p.1 p.2 row) (countPairs l) rows := by
  obtain ⟨S, _, _, -, -, h3, e⟩ := insertSenses_split t.sen
  obtain rfl : S = db'.senses := (congrArg Db.senses e :).symm
  obtain ⟨-, rows, hr, hF⟩ := foldlM_rows1 (fun d => d.counts) (fun d => d.senses) _
    (fun S (p : Sense × Count) row => CountRowOf t.ctx S p.1 p.2 row)
    (fun b p b' hh => by
      obtain ⟨_, h1, rfl⟩ := countStep_ok hh
      exact ⟨rfl, _, rfl, rfl, h1, rfl, rfl⟩) _ _ _ h3
  exact ⟨rows, hr, hF⟩

theorem insertEntries_nodup {b b' : Db} {l : Lexicon} {c : Ctx} (h : insertEntries b l c = .ok b')
    (hn : (b.entries.map (·.rowid)).Nodup) : (b'.entries.map (·.rowid)).Nodup :=
  foldlM_inv (fun d => (d.entries.map (·.rowid)).Nodup) (fun b e b' hs hb => by
    obtain ⟨_, -, -, rfl⟩ := entryStep_ok hs
    exact nodup_append_nextId (fun r : REntry => r.rowid) _ _ rfl hb) h hn

theorem insertSynsets_nodup {b b' : Db} {l : Lexicon} {c : Ctx} (h : insertSynsets b l c = .ok b')
    (hn : (b.synsets.map (·.rowid)).Nodup) : (b'.synsets.map (·.rowid)).Nodup := by
  obtain ⟨_, _, _, _, -, -, h2, -, rfl⟩ := insertSynsets_split h
  exact foldlM_inv (fun d => (d.synsets.map (·.rowid)).Nodup) (fun b ss b' hs hb => by
    obtain ⟨_, _, rfl⟩ := synsetStep_ok hs
    exact nodup_append_nextId (fun r : RSynset => r.rowid) _ _ rfl hb) h2 hn

section
variable {norm : String → String} {dr : Nat} {db db' : Db} {l : Lexicon} (t : AddTrace norm dr db db' l)
include t

theorem AddTrace.nodup_synsets (hn : (db.synsets.map (·.rowid)).Nodup) : (db'.synsets.map (·.rowid)).Nodup :=
  (insertSynsets_nodup t.syn hn :)

theorem AddTrace.nodup_entries (hn : (db.entries.map (·.rowid)).Nodup) : (db'.entries.map (·.rowid)).Nodup :=
  (insertEntries_nodup t.ent hn :)

theorem AddTrace.nodup_senses (hn : (db.senses.map (·.rowid)).Nodup) : (db'.senses.map (·.rowid)).Nodup := by
  obtain ⟨-, -, -, -, -, h⟩ := addLexicon_sense_table t
  exact h hn

theorem AddTrace.nodup_reltypes (hn : (db.reltypes.map (·.1)).Nodup) : (db'.reltypes.map (·.1)).Nodup := by
  rw [t.reltypes_eq]
  unfold updateLookups
  exact foldl_lookupInsert_nodup _ _ hn

end

end WnVerif.Db
