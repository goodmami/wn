/-
C18 — the validator always produces a report and each check is exact.
Model: `Model/Validate.lean`.  Totality ("never raises") is part of the model: every check
is a total function of any lexicon; the source's partial operations `sspos[target]` and `REVERSE_RELATIONS[typ]`
are guarded, and the guards are mirrored; `e['lemma']` in `_redundant_entry` is not, and the model reads a missing lemma
as `""` (`lemmaForm`), which no document that the loader accepts and `validate` looks at has.
Exactness is stated on the key set of a check (the entities listed), for every lexicon, and proved
for sixteen of the eighteen checks: of W404 only soundness is proved, and of E101 nothing.
-/
import WnVerif.Model.Validate
import WnVerif.Lemmas.Dict
import WnVerif.Lemmas.Counter
import WnVerif.Lemmas.StrTable
namespace WnVerif.Props.C18
open WnVerif.Validate WnVerif.Doc

open StrTable in
/-- the laws of `REVERSE_RELATIONS` (the table is regenerated from `constants.py` on every run), by one
kernel evaluation over the whole table, in which strings are compared by their numbers
(`Lemmas/StrTable.lean`) -/
theorem reverse_relations_laws :
    (∀ e ∈ Gen.reverse_relations, (e.2, e.1) ∈ Gen.reverse_relations) ∧
    (Gen.reverse_relations.map (·.1)).Nodup ∧
    (∀ e ∈ Gen.reverse_relations,
      e.1 ∈ Gen.synset_relations ∨ e.1 ∈ Gen.sense_relations ∨ e.1 ∈ Gen.sense_synset_relations) := by
  have h : (∀ e ∈ Gen.reverse_relations, memBy (code ·.1) (e.2, e.1) Gen.reverse_relations) ∧
      nodupBy code (Gen.reverse_relations.map (·.1)) ∧
      (∀ e ∈ Gen.reverse_relations, memBy code e.1 Gen.synset_relations ∨ memBy code e.1 Gen.sense_relations ∨
        memBy code e.1 Gen.sense_synset_relations) := by
    decide +kernel
  simp only [memBy_iff] at h
  exact ⟨h.1, nodupBy_sound h.2.1, h.2.2⟩

/-- `REVERSE_RELATIONS` is an involution: with `(a, b)` it lists `(b, a)` -/
theorem C18_reverse_involution :
    ∀ e ∈ Gen.reverse_relations, (e.2, e.1) ∈ Gen.reverse_relations :=
  reverse_relations_laws.1

/-- `REVERSE_RELATIONS` is a function: no relation has two reverses -/
theorem C18_reverse_functional :
    (Gen.reverse_relations.map (·.1)).Nodup :=
  reverse_relations_laws.2.1

/-- every relation that has a reverse is in one of the three relation inventories -/
theorem C18_reverse_closed :
    ∀ e ∈ Gen.reverse_relations, e.1 ∈ Gen.synset_relations ∨ e.1 ∈ Gen.sense_relations ∨ e.1 ∈ Gen.sense_synset_relations :=
  reverse_relations_laws.2.2

/-- the codes of the table of checks, in source order -/
theorem C18_eighteen_checks : codes.map (·.1) =
    ["E101", "W201", "W202", "W203", "E204", "W301", "W302", "W303", "W304", "W305", "W306", "W307",
     "E401", "W402", "W403", "W404", "W501", "W502"] := rfl

/-- a category letter selects every code of the category, a code selects itself -/
theorem C18_select_rule (select : List String) (code : String) :
    selected select code = true ↔ code ∈ select ∨ (code.take 1).toString ∈ select := by
  simp [selected]

/-- the report contains exactly the selected checks, in table order -/
theorem C18_selected (l : Lexicon) (select : List String) (h : l.ext = none) :
    (validate l select).map (·.1) = (codes.map (·.1)).filter (selected select) := by
  simp only [validate, h, Option.isSome_none, Bool.false_eq_true, if_false, List.map_map, List.filter_map]
  rfl

/-- extensions are not validated -/
theorem C18_extension_empty (l : Lexicon) (select : List String) (h : l.ext.isSome = true) : validate l select = [] := by
  simp [validate, h]

/-- a result built by `dictOf`, as that of every check but E101 is, has distinct keys (a Python dict).
The statement is `dictOf_nodup` for any pairs and does not mention the checks. -/
theorem C18_items_distinct (pairs : List (String × Ctx)) : ((dictOf pairs).map (·.1)).Nodup := dictOf_nodup pairs

theorem contains_false_iff {α} [BEq α] [LawfulBEq α] (l : List α) (x : α) : l.contains x = false ↔ x ∉ l := by
  simp

/-- W201: exactly the lexical entries without senses -/
theorem C18_W201 (l : Lexicon) (id : String) :
    id ∈ (W201 l).map (·.1) ↔ ∃ e ∈ l.entries, e.id = id ∧ e.senses = [] :=
  mem_keys_check fun _ => List.isEmpty_iff

/-- W202: exactly the senses whose synset is referenced by at least two senses of the same entry -/
theorem C18_W202 (l : Lexicon) (id : String) :
    id ∈ (W202 l).map (·.1) ↔ ∃ e ∈ l.entries, ∃ s ∈ e.senses, s.id = id ∧ 2 ≤ (e.senses.map (·.synset)).count s.synset := by
  unfold W202
  rw [mem_keys_dictOf]
  simp only [List.map_flatMap, List.mem_flatMap, mem_keys_filter_map, List.contains_iff_mem, mem_multiples_keys]

/-- W203: exactly the lemma forms that some synset lists at least twice (two entries with the same
lemma in one synset) -/
theorem C18_W203 (l : Lexicon) (form : String) :
    form ∈ (W203 l).map (·.1) ↔ ∃ y : String,
      2 ≤ (l.entries.flatMap (fun e => e.senses.map (fun s => (lemmaForm e, s.synset)))).count (form, y) := by
  unfold W203
  rw [mem_keys_dictOf, mem_keys_map_multiples]
  constructor
  · rintro ⟨⟨_, y⟩, h, rfl⟩; exact ⟨y, h⟩
  · rintro ⟨y, h⟩; exact ⟨(form, y), h, rfl⟩

/-- E204: exactly the senses whose synset is not a synset of the lexicon -/
theorem C18_E204 (l : Lexicon) (id : String) :
    id ∈ (E204 l).map (·.1) ↔ ∃ e ∈ l.entries, ∃ s ∈ e.senses, s.id = id ∧ s.synset ∉ synsetIds l := by
  unfold E204
  rw [mem_keys_dictOf]
  simp only [List.map_flatMap, List.mem_flatMap, mem_keys_filter_map, Bool.not_eq_true', contains_false_iff]

/-- W301: exactly the synsets no sense refers to -/
theorem C18_W301 (l : Lexicon) (id : String) :
    id ∈ (W301 l).map (·.1) ↔ ∃ ss ∈ l.synsets, ss.id = id ∧ ∀ e ∈ l.entries, ∀ s ∈ e.senses, s.synset ≠ ss.id :=
  mem_keys_check fun ss => by
    simp only [Bool.not_eq_true', contains_false_iff, List.mem_flatMap, List.mem_map, not_exists, not_and]

/-- W302: exactly the synsets whose (real) ILI is used by at least two synsets of the lexicon -/
theorem C18_W302 (l : Lexicon) (id : String) :
    id ∈ (W302 l).map (·.1) ↔ ∃ ss ∈ l.synsets, ss.id = id ∧
      2 ≤ ((l.synsets.filter (fun y => y.ili != "" && y.ili != "in")).map (·.ili)).count ss.ili :=
  mem_keys_check fun ss => by simp only [List.contains_iff_mem, mem_multiples_keys]

/-- W303: exactly the synsets proposing a new ILI without an ILI definition -/
theorem C18_W303 (l : Lexicon) (id : String) :
    id ∈ (W303 l).map (·.1) ↔ ∃ ss ∈ l.synsets, ss.id = id ∧ ss.ili = "in" ∧ ss.iliDef = none :=
  mem_keys_check fun ss => by simp only [Bool.and_eq_true, beq_iff_eq, Option.isNone_iff_eq_none]

/-- W304: exactly the synsets with an existing ILI and a (spurious) ILI definition -/
theorem C18_W304 (l : Lexicon) (id : String) :
    id ∈ (W304 l).map (·.1) ↔ ∃ ss ∈ l.synsets, ss.id = id ∧ ss.ili ≠ "" ∧ ss.ili ≠ "in" ∧ ss.iliDef.isSome = true := by
  unfold W304
  rw [mem_keys_dictOf]
  simp only [List.map_filterMap, List.mem_filterMap]
  refine exists_congr fun ss => and_congr_right fun _ => ?_
  cases ss.iliDef <;> simp [apply_ite, and_comm]

/-- W305: exactly the synsets with a blank definition -/
theorem C18_W305 (l : Lexicon) (id : String) :
    id ∈ (W305 l).map (·.1) ↔ ∃ ss ∈ l.synsets, ss.id = id ∧ ∃ d ∈ ss.definitions, blank d.text = true :=
  mem_keys_check fun _ => List.any_eq_true

/-- W306: exactly the synsets with a blank example -/
theorem C18_W306 (l : Lexicon) (id : String) :
    id ∈ (W306 l).map (·.1) ↔ ∃ ss ∈ l.synsets, ss.id = id ∧ ∃ d ∈ ss.examples, blank d.text = true :=
  mem_keys_check fun _ => List.any_eq_true

/-- W307: exactly the synsets having a definition text that occurs at least twice in the lexicon -/
theorem C18_W307 (l : Lexicon) (id : String) :
    id ∈ (W307 l).map (·.1) ↔ ∃ ss ∈ l.synsets, ss.id = id ∧ ∃ d ∈ ss.definitions,
      2 ≤ (l.synsets.flatMap (fun y => y.definitions.map (·.text))).count d.text :=
  mem_keys_check fun ss => by simp only [List.any_eq_true, List.contains_iff_mem, mem_multiples_keys]

/-- E401: exactly the senses / synsets with a relation whose target is not a sense or synset
(for synset relations: not a synset) of the lexicon -/
theorem C18_E401 (l : Lexicon) (id : String) :
    id ∈ (E401 l).map (·.1) ↔
      (∃ p ∈ senseRels l, p.1.id = id ∧ p.2.target ∉ senseIds l ∧ p.2.target ∉ synsetIds l) ∨
      (∃ p ∈ synsetRels l, p.1.id = id ∧ p.2.target ∉ synsetIds l) := by
  unfold E401
  rw [mem_keys_dictOf, List.map_append, List.mem_append, mem_keys_filter_map, mem_keys_filter_map]
  simp only [Bool.and_eq_true, Bool.not_eq_true', contains_false_iff]

/-- W402: exactly the senses / synsets with a relation whose type is not in the inventory for
its kind of source and target -/
theorem C18_W402 (l : Lexicon) (id : String) :
    id ∈ (W402 l).map (·.1) ↔
      (∃ p ∈ senseRels l, p.1.id = id ∧
        ((p.2.target ∈ senseIds l ∧ p.2.relType ∉ Gen.sense_relations) ∨
         (p.2.target ∈ synsetIds l ∧ p.2.relType ∉ Gen.sense_synset_relations))) ∨
      (∃ p ∈ synsetRels l, p.1.id = id ∧ p.2.relType ∉ Gen.synset_relations) := by
  unfold W402
  rw [mem_keys_dictOf, List.map_append, List.mem_append, mem_keys_filter_map, mem_keys_filter_map]
  simp only [Bool.and_eq_true, Bool.or_eq_true, Bool.not_eq_true', contains_false_iff, List.contains_iff_mem]

/-- W403: exactly the sources having two relations with the same type, target and dc:type -/
theorem C18_W403 (l : Lexicon) (id : String) :
    id ∈ (W403 l).map (·.1) ↔ ∃ typ tgt dc,
      2 ≤ ((senseRels l).map (fun p => (p.1.id, p.2.relType, p.2.target, dcType p.2)) ++
           (synsetRels l).map (fun p => (p.1.id, p.2.relType, p.2.target, dcType p.2))).count (id, typ, tgt, dc) := by
  unfold W403
  rw [mem_keys_dictOf, mem_keys_map_multiples]
  constructor
  · rintro ⟨⟨_, typ, tgt, dc⟩, h, rfl⟩; exact ⟨typ, tgt, dc, h⟩
  · rintro ⟨typ, tgt, dc, h⟩; exact ⟨(id, typ, tgt, dc), h, rfl⟩

/-- W501: exactly the synsets with a hypernym whose part of speech differs from theirs (the part
of speech of the last synset carrying the target id; a dangling target is not reported) -/
theorem C18_W501 (l : Lexicon) (id : String) :
    id ∈ (W501 l).map (·.1) ↔ ∃ p ∈ synsetRels l, p.1.id = id ∧ p.2.relType = "hypernym" ∧
      ∃ tp, ((l.synsets.filter (fun ss => ss.id == p.2.target)).getLast?).map (·.pos) = some tp ∧ p.1.pos ≠ tp := by
  unfold W501
  rw [mem_keys_dictOf]
  simp only [List.map_filterMap, List.mem_filterMap]
  refine exists_congr fun p => and_congr_right fun _ => ?_
  by_cases hh : p.2.relType = "hypernym"
  · cases ((l.synsets.filter (fun ss => ss.id == p.2.target)).getLast?).map (·.pos) <;> simp [hh, apply_ite, and_comm]
  · simp [hh]

/-- W502: exactly the senses / synsets with a relation to themselves -/
theorem C18_W502 (l : Lexicon) (id : String) :
    id ∈ (W502 l).map (·.1) ↔
      (∃ p ∈ senseRels l, p.1.id = id ∧ p.2.target = id) ∨ (∃ p ∈ synsetRels l, p.1.id = id ∧ p.2.target = id) := by
  unfold W502
  rw [mem_keys_dictOf, List.map_append, List.mem_append, mem_keys_filter_map, mem_keys_filter_map]
  simp only [beq_iff_eq]
  refine or_congr ?_ ?_ <;>
    exact exists_congr fun p => and_congr_right fun _ => and_congr_right fun h => by rw [h, eq_comm]

theorem firstOfKey_dedupTriples : FirstOfKey id dedupTriples := ⟨rfl, fun _ _ => rfl⟩

/-- W404: a listed target has a (regular) relation into it whose type has a reverse, and the
reported context names that reverse type and the relation's source (that the reverse relation is
missing, and the converse, are not part of the statement) -/
theorem C18_W404_sound (l : Lexicon) (tgt : String) (ctx : Ctx) (h : (tgt, ctx) ∈ W404 l) :
    ∃ src typ rev, reverseOf typ = some rev ∧ ctx = [("type", Val.str rev), ("target", Val.str src)] ∧
      ((∃ p ∈ senseRels l, p.1.id = src ∧ p.2.relType = typ ∧ p.2.target = tgt ∧ tgt ∈ senseIds l) ∨
       (∃ p ∈ synsetRels l, p.1.id = src ∧ p.2.relType = typ ∧ p.2.target = tgt)) := by
  obtain ⟨⟨src, typ, t⟩, hreg, hsome⟩ := List.mem_filterMap.mp (mem_dictOf _ _ h)
  cases hr : reverseOf typ with
  | none => simp [hr] at hsome
  | some rev =>
    simp only [hr] at hsome
    split at hsome
    · cases hsome
    · obtain ⟨rfl, rfl⟩ := Prod.mk.inj (Option.some.inj hsome)
      refine ⟨src, typ, rev, hr, rfl, ?_⟩
      have := (firstOfKey_dedupTriples.sublist _).mem hreg
      simp only [List.mem_append, List.mem_map, List.mem_filter, Prod.mk.injEq] at this
      rcases this with ⟨p, ⟨hp, hin⟩, h1, h2, h3⟩ | ⟨p, hp, h1, h2, h3⟩
      · exact Or.inl ⟨p, hp, h1, h2, h3, h3 ▸ List.contains_iff_mem.mp hin⟩
      · exact Or.inr ⟨p, hp, h1, h2, h3⟩

/-- a synset with a hypernym relation to a synset that is not there -/
def brokenLex : Lexicon :=
  { id := "v", version := "1", label := "v", language := "en", email := "e", license := "l",
    synsets := [{ id := "v-1", ili := "", pos := some "n",
                  relations := [{ target := "v-9", relType := "hypernym" }] }] }

/-- a hypernym relation to a missing synset is reported by E401 and passed over by W501 (the guard on
`sspos[target]`), and the report has all eighteen checks -/
theorem C18_dangling_hypernym :
    (E401 brokenLex).map (·.1) = ["v-1"] ∧ W501 brokenLex = [] ∧
    ((validate brokenLex ["E", "W"]).map (·.1)).length = 18 := by
  decide +kernel

end WnVerif.Props.C18
