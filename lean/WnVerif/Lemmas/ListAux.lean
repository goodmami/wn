/- The list helpers of `Model/Graph.lean` (`listMax`, `listMin`, `dedup`, `sortN`): membership, bounds, sortedness. -/
import WnVerif.Model.Graph
import WnVerif.Lemmas.Lists
namespace WnVerif.Graph

theorem foldl_max (l : List Nat) (a : Nat) :
    (l.foldl max a = a ∨ l.foldl max a ∈ l) ∧ a ≤ l.foldl max a ∧ ∀ x ∈ l, x ≤ l.foldl max a :=
  foldl_select max (· ≤ ·) Nat.le_refl Nat.le_trans (fun a b =>
    ⟨(Nat.le_total b a).imp Nat.max_eq_left Nat.max_eq_right, Nat.le_max_left a b, Nat.le_max_right a b⟩) l a

theorem foldl_min (l : List Nat) (a : Nat) :
    (l.foldl min a = a ∨ l.foldl min a ∈ l) ∧ l.foldl min a ≤ a ∧ ∀ x ∈ l, l.foldl min a ≤ x :=
  foldl_select min (· ≥ ·) Nat.le_refl (fun h1 h2 => Nat.le_trans h2 h1) (fun a b =>
    ⟨(Nat.le_total a b).imp Nat.min_eq_left Nat.min_eq_right, Nat.min_le_left a b, Nat.min_le_right a b⟩) l a

theorem le_listMax (l : List Nat) : ∀ x ∈ l, x ≤ listMax l := (foldl_max l 0).2.2

theorem listMax_mem (l : List Nat) (h : l ≠ []) : listMax l ∈ l := by
  rcases (foldl_max l 0).1 with h0 | hm
  · -- the maximum is the initial 0: then every element is 0
    obtain ⟨b, hb⟩ := List.exists_mem_of_ne_nil l h
    have := le_listMax l b hb
    rw [listMax, h0] at this ⊢
    exact Nat.le_zero.mp this ▸ hb
  · exact hm

theorem listMax_concat (l : List Nat) (a : Nat) : listMax (l ++ [a]) = max (listMax l) a := by
  simp [listMax, List.foldl_append]

theorem listMin_le (l : List Nat) : ∀ x ∈ l, listMin l ≤ x := by
  cases l with
  | nil => nofun
  | cons a t => exact List.forall_mem_cons.mpr (foldl_min t a).2

theorem listMin_mem (l : List Nat) (h : l ≠ []) : listMin l ∈ l := by
  cases l with
  | nil => exact absurd rfl h
  | cons a t => exact List.mem_cons.mpr (foldl_min t a).1

theorem firstOfKey_dedup {α} [BEq α] : FirstOfKey id (dedup (α := α)) := ⟨rfl, fun _ _ => rfl⟩

theorem mem_dedup {α} [BEq α] [LawfulBEq α] (l : List α) (x : α) : x ∈ dedup l ↔ x ∈ l :=
  ⟨(firstOfKey_dedup.sublist l).mem, fun hx => by obtain ⟨y, hy, rfl⟩ := firstOfKey_dedup.key_mem l x hx; exact hy⟩

theorem dedup_nodup {α} [BEq α] [LawfulBEq α] (l : List α) : (dedup l).Nodup := by
  simpa using firstOfKey_dedup.nodup l

theorem mem_insertN (a : N) : ∀ (l : List N) (x : N), x ∈ insertN a l ↔ x = a ∨ x ∈ l := by
  intro l
  induction l with
  | nil => intro x; simp [insertN]
  | cons b t ih =>
    intro x
    rw [insertN]
    split
    · exact List.mem_cons
    · rw [List.mem_cons, ih, List.mem_cons]
      exact or_left_comm

theorem mem_sortN : ∀ (l : List N) (x : N), x ∈ sortN l ↔ x ∈ l :=
  mem_foldr_insert insertN mem_insertN

theorem nkey_inj (a b : N) (h : nkey a = nkey b) : a = b := by
  cases a <;> cases b <;> simp [nkey] at h ⊢ <;> omega

theorem insertN_sorted (a : N) : ∀ (l : List N), l.Pairwise (fun x y => nkey x < nkey y) → a ∉ l →
    (insertN a l).Pairwise (fun x y => nkey x < nkey y) := by
  intro l
  induction l with
  | nil => intro _ _; simp [insertN]
  | cons b t ih =>
    intro h ha
    rw [insertN]
    split
    · rename_i hle
      have hne : nkey a ≠ nkey b := fun e => ha (nkey_inj a b e ▸ List.mem_cons_self)
      exact pairwise_cons_front (R := fun x y => nkey x < nkey y) Nat.lt_trans (Nat.lt_of_le_of_ne hle hne) h
    · rename_i hgt
      exact pairwise_cons_insert (R := fun x y => nkey x < nkey y) (Nat.lt_of_not_le hgt) h
        (fun x hx => (mem_insertN a t x).mp hx)
        (ih (List.pairwise_cons.mp h).2 fun e => ha (List.mem_cons_of_mem _ e))

theorem sortN_sorted : ∀ (l : List N), l.Nodup → (sortN l).Pairwise (fun x y => nkey x < nkey y) := by
  intro l
  induction l with
  | nil => intro _; exact List.Pairwise.nil
  | cons a t ih =>
    intro h
    obtain ⟨hat, ht⟩ := List.nodup_cons.mp h
    exact insertN_sorted a _ (ih ht) (fun hm => hat ((mem_sortN t a).mp hm))

end WnVerif.Graph
