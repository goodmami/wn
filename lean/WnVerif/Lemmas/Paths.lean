/-
`extend` / `relPaths` (the model of `_Relatable.relation_paths`) enumerate exactly the maximal
simple chains, and these cover what is reachable: a walk can be shortened to a simple path, and a
simple path can be extended to a maximal one in a finite graph.

`_hypernym_paths` of a synset (`hypPaths`) is the relation paths, then `include_self`, then
`simulate_root`; the last two map over the paths, or put one default path when there is none.
-/
import WnVerif.Lemmas.ListAux
namespace WnVerif.Graph

/-- recursive characterisation: `p` is a maximal simple chain from `x` avoiding `vis` -/
def MaxSimple (g : Adj) : List Nat → Nat → List Nat → Prop
  | vis, x, [] => ∀ t ∈ g x, t ∈ vis
  | vis, x, y :: q => y ∈ g x ∧ y ∉ vis ∧ MaxSimple g (y :: vis) y q

theorem extend_sound (g : Adj) : ∀ fuel vis x p, p ∈ extend g fuel vis x → MaxSimple g vis x p := by
  intro fuel vis x
  fun_induction extend g fuel vis x with
  | case1 => intro p h; cases h
  | case2 fuel vis x nxt hemp =>
    intro p h
    cases List.mem_singleton.mp h
    intro t ht
    simpa using List.filter_eq_nil_iff.mp (List.isEmpty_iff.mp hemp) t ht
  | case3 fuel vis x nxt _ ih =>
    intro p h
    obtain ⟨t, ht, q, hq, rfl⟩ : ∃ t ∈ nxt, ∃ q ∈ extend g fuel (t :: vis) t, t :: q = p := by
      simpa only [List.mem_flatMap, List.mem_map] using h
    obtain ⟨ht, hv⟩ := List.mem_filter.mp ht
    exact ⟨ht, by simpa using hv, ih t q hq⟩

theorem extend_complete (g : Adj) : ∀ fuel vis x p, p.length < fuel → MaxSimple g vis x p →
    p ∈ extend g fuel vis x := by
  intro fuel
  induction fuel with
  | zero => intro vis x p h; omega
  | succ n ih =>
    intro vis x p hlen hm
    rw [extend]
    cases p with
    | nil =>
      rw [if_pos (by simpa [List.filter_eq_nil_iff, MaxSimple] using hm)]
      exact List.mem_singleton_self _
    | cons y q =>
      obtain ⟨hy, hv, hq⟩ := hm
      rw [if_neg (by simpa using ⟨y, hy, hv⟩)]
      simp only [List.mem_flatMap, List.mem_map, List.mem_filter]
      exact ⟨y, ⟨hy, by simpa using hv⟩, q, ih _ _ _ (Nat.lt_of_succ_lt_succ hlen) hq, rfl⟩

/-- a chain `x → p₀ → p₁ → …` of the relation -/
def Chain (g : Adj) : Nat → List Nat → Prop
  | _, [] => True
  | x, y :: q => y ∈ g x ∧ Chain g y q

theorem chain_append_left (g : Adj) : ∀ (a b : List Nat) (x : Nat), Chain g x (a ++ b) → Chain g x a := by
  intro a
  induction a with
  | nil => intro b x _; trivial
  | cons y q ih => intro b x h; exact ⟨h.1, ih b y h.2⟩

theorem chain_snoc (g : Adj) : ∀ (p : List Nat) (x z : Nat), Chain g x p → z ∈ g (p.getLastD x) →
    Chain g x (p ++ [z]) := by
  intro p
  induction p with
  | nil => intro x z _ hz; exact ⟨hz, trivial⟩
  | cons y q ih => intro x z hc hz; exact ⟨hc.1, ih y z hc.2 (List.getLastD_cons ▸ hz)⟩

/-- the graph-theoretic statement of `MaxSimple`; the last clause says that `p` cannot be extended -/
def MaximalSimpleChain (g : Adj) (vis : List Nat) (x : Nat) (p : List Nat) : Prop :=
  Chain g x p ∧ p.Nodup ∧ (∀ y ∈ p, y ∉ vis) ∧ (∀ t ∈ g (p.getLastD x), t ∈ vis ∨ t ∈ p)

theorem maxSimple_iff (g : Adj) : ∀ (p : List Nat) (vis : List Nat) (x : Nat),
    MaxSimple g vis x p ↔ MaximalSimpleChain g vis x p := by
  intro p
  induction p with
  | nil => intro vis x; simp [MaxSimple, MaximalSimpleChain, Chain]
  | cons y q ih =>
    intro vis x
    -- the same conditions on both sides, with `y` counted to the visited set or to the path
    have havoid : (∀ z ∈ q, z ∉ y :: vis) ↔ y ∉ q ∧ ∀ z ∈ q, z ∉ vis := by
      simp only [List.mem_cons, not_or, forall_and]
      exact and_congr_left fun _ => ⟨fun h hy => h y hy rfl, fun h z hz e => h (e ▸ hz)⟩
    have hmax : ∀ t, t ∈ y :: vis ∨ t ∈ q ↔ t ∈ vis ∨ t ∈ y :: q := fun t => by
      simp only [List.mem_cons, or_assoc, or_left_comm]
    simp only [MaxSimple, ih, MaximalSimpleChain, Chain, List.nodup_cons, List.getLastD_cons,
      List.forall_mem_cons, havoid]
    exact ⟨fun ⟨a, b, c, d, ⟨e, f⟩, m⟩ => ⟨⟨a, c⟩, ⟨e, d⟩, ⟨b, f⟩, fun t ht => (hmax t).mp (m t ht)⟩,
      fun ⟨⟨a, c⟩, ⟨e, d⟩, ⟨b, f⟩, m⟩ => ⟨a, b, c, d, ⟨e, f⟩, fun t ht => (hmax t).mpr (m t ht)⟩⟩

def InRange (g : Adj) (n : Nat) : Prop := ∀ x t, t ∈ g x → t < n

theorem chain_pairwise (g : Adj) (R : Nat → Nat → Prop) (hstep : ∀ x y, y ∈ g x → R x y)
    (htrans : ∀ {x y z}, R x y → R y z → R x z) :
    ∀ (p : List Nat) (x : Nat), Chain g x p → (x :: p).Pairwise R
  | [], _, _ => List.pairwise_singleton R _
  | y :: q, x, hc =>
    have ih := chain_pairwise g R hstep htrans q y hc.2
    have hxy := hstep x y hc.1
    List.pairwise_cons.mpr
      ⟨List.forall_mem_cons.mpr ⟨hxy, fun z hz => htrans hxy ((List.pairwise_cons.mp ih).1 z hz)⟩, ih⟩

theorem chain_length_le (g : Adj) (n : Nat) (h : InRange g n) (p : List Nat) (x : Nat) (hc : Chain g x p)
    (hn : p.Nodup) : p.length ≤ n := by
  have hlt := (List.pairwise_cons.mp (chain_pairwise g (fun _ y => y < n) h (fun _ h => h) p x hc)).1
  simpa using hn.length_le_of_subset (l₂ := List.range n) fun y hy => List.mem_range.mpr (hlt y hy)

/-- a maximal simple chain has at most `n` nodes, so the fuel `n + 1` loses none -/
theorem mem_relPaths (g : Adj) (n : Nat) (h : InRange g n) (x : Nat) (p : List Nat) :
    p ∈ relPaths g (n + 1) x ↔ p ≠ [] ∧ MaximalSimpleChain g [x] x p := by
  constructor
  · intro hp
    simp only [relPaths, List.mem_flatMap, List.mem_reverse, List.mem_filter, List.mem_map] at hp
    obtain ⟨t, ⟨ht, hne⟩, q, hq, rfl⟩ := hp
    refine ⟨by simp, ?_⟩
    rw [← maxSimple_iff]
    refine ⟨ht, ?_, extend_sound g _ _ _ _ hq⟩
    simpa using hne
  · rintro ⟨hne, hp⟩
    have hlen := chain_length_le g n h p x hp.1 hp.2.1
    rw [← maxSimple_iff] at hp
    cases p with
    | nil => exact absurd rfl hne
    | cons t q =>
      obtain ⟨ht, hv, hq⟩ := hp
      simp only [relPaths, List.mem_flatMap, List.mem_reverse, List.mem_filter, List.mem_map]
      refine ⟨t, ⟨ht, ?_⟩, q, extend_complete g _ _ _ _ ?_ hq, rfl⟩
      · simpa using hv
      · rw [List.length_cons] at hlen
        omega

inductive Reach (g : Adj) : Nat → Nat → Prop
  | refl (x : Nat) : Reach g x x
  | step {x y z : Nat} : Reach g x y → z ∈ g y → Reach g x z

theorem Reach.trans {g : Adj} {x y z : Nat} (h1 : Reach g x y) (h2 : Reach g y z) : Reach g x z := by
  induction h2 with
  | refl => exact h1
  | step _ hz ih => exact Reach.step ih hz

theorem chain_reach (g : Adj) (p : List Nat) (x : Nat) (hc : Chain g x p) : ∀ y ∈ p, Reach g x y :=
  (List.pairwise_cons.mp (chain_pairwise g (Reach g) (fun x _ h => .step (.refl x) h) Reach.trans p x hc)).1

theorem simple_snoc (g : Adj) {x t : Nat} {p : List Nat} (hc : Chain g x p) (hn : (x :: p).Nodup)
    (ht : t ∈ g (p.getLastD x)) (hnot : t ∉ x :: p) : Chain g x (p ++ [t]) ∧ (x :: (p ++ [t])).Nodup :=
  ⟨chain_snoc g p x t hc ht,
    (List.perm_append_singleton t (x :: p)).nodup_iff.mpr (List.nodup_cons.mpr ⟨hnot, hn⟩)⟩

theorem reach_simple (g : Adj) {x y : Nat} (h : Reach g x y) :
    ∃ p, Chain g x p ∧ (x :: p).Nodup ∧ p.getLastD x = y := by
  induction h with
  | refl => exact ⟨[], trivial, by simp, rfl⟩
  | @step y z _ hz ih =>
    obtain ⟨p, hc, hn, hl⟩ := ih
    by_cases hzx : z = x
    · exact ⟨[], trivial, by simp, hzx.symm⟩
    by_cases hzp : z ∈ p
    · -- cut the path at the first visit of `z`
      obtain ⟨p1, p2, rfl⟩ := List.append_of_mem hzp
      have e : p1 ++ z :: p2 = (p1 ++ [z]) ++ p2 := by simp
      rw [e] at hc hn
      exact ⟨p1 ++ [z], chain_append_left g _ _ _ hc,
        hn.sublist ((List.sublist_append_left _ _).cons_cons x), by simp⟩
    · obtain ⟨hc', hn'⟩ := simple_snoc g hc hn (hl ▸ hz) (by simp [hzx, hzp])
      exact ⟨p ++ [z], hc', hn', by simp⟩

/-- the chain is maximal once every successor of its end is on it, and until then it grows, which
`n` nodes allow `n` times -/
theorem extend_to_maximal (g : Adj) (n : Nat) (hr : InRange g n) (x : Nat) (p : List Nat)
    (hc : Chain g x p) (hn : (x :: p).Nodup) : ∃ q, MaximalSimpleChain g [x] x (p ++ q) := by
  by_cases hall : ∀ t ∈ g (p.getLastD x), t ∈ x :: p
  · refine ⟨[], ?_⟩
    rw [List.append_nil]
    obtain ⟨hx, hp⟩ := List.nodup_cons.mp hn
    exact ⟨hc, hp, fun y hy hyx => hx (List.mem_singleton.mp hyx ▸ hy),
      fun t ht => (List.mem_cons.mp (hall t ht)).imp List.mem_singleton.mpr id⟩
  · obtain ⟨t, ht, hnot⟩ : ∃ t, t ∈ g (p.getLastD x) ∧ t ∉ x :: p := by
      simpa only [Classical.not_forall, Classical.not_imp, exists_prop] using hall
    obtain ⟨hc', hn'⟩ := simple_snoc g hc hn ht hnot
    have hlen := chain_length_le g n hr (p ++ [t]) x hc' (List.nodup_cons.mp hn').2
    obtain ⟨q, hq⟩ := extend_to_maximal g n hr x (p ++ [t]) hc' hn'
    exact ⟨t :: q, by rwa [List.append_assoc] at hq⟩
termination_by n - p.length
decreasing_by
  rw [List.length_append, List.length_singleton] at hlen ⊢
  omega

theorem reach_on_relPaths (g : Adj) (n : Nat) (hr : InRange g n) {x y : Nat} (h : Reach g x y)
    (hne : y ≠ x) : ∃ p ∈ relPaths g (n + 1) x, y ∈ p := by
  obtain ⟨p, hc, hn, rfl⟩ := reach_simple g h
  obtain ⟨q, hq⟩ := extend_to_maximal g n hr x p hc hn
  have hy : p.getLastD x ∈ p := (List.mem_cons.mp List.getLastD_mem_cons).resolve_left hne
  exact ⟨p ++ q, (mem_relPaths g n hr x _).mpr ⟨List.append_ne_nil_of_left_ne_nil (List.ne_nil_of_mem hy) q, hq⟩,
    List.mem_append_left q hy⟩

theorem self_or_on_relPaths_iff_reach (g : Adj) (n : Nat) (hr : InRange g n) (x y : Nat) :
    (y = x ∨ ∃ p ∈ relPaths g (n + 1) x, y ∈ p) ↔ Reach g x y := by
  constructor
  · rintro (rfl | ⟨p, hp, hy⟩)
    · exact .refl _
    · exact chain_reach g p x ((mem_relPaths g n hr x p).mp hp).2.1 y hy
  · intro h
    by_cases hyx : y = x
    · exact Or.inl hyx
    · exact Or.inr (reach_on_relPaths g n hr h hyx)

theorem hypPaths_plain (g : Adj) (fuel : Nat) (x : Nat) :
    hypPaths g fuel (some x) false false = (relPaths g fuel x).map (·.map some) := rfl

theorem hypPaths_self (g : Adj) (fuel : Nat) (x : Nat) :
    hypPaths g fuel (some x) false true =
      if (hypPaths g fuel (some x) false false).isEmpty then [[some x]]
      else (hypPaths g fuel (some x) false false).map (some x :: ·) := rfl

theorem hypPaths_simRoot (g : Adj) (fuel : Nat) (x : Nat) (incl : Bool) :
    hypPaths g fuel (some x) true incl =
      if (hypPaths g fuel (some x) false incl).isEmpty then [[none]]
      else (hypPaths g fuel (some x) false incl).map (· ++ [none]) := rfl

theorem mem_flatten_hypPaths_self (g : Adj) (fuel : Nat) (x : Nat) (z : N) :
    z ∈ (hypPaths g fuel (some x) false true).flatten ↔
      z = some x ∨ ∃ p ∈ relPaths g fuel x, ∃ y ∈ p, z = some y := by
  rw [hypPaths_self, mem_flatten_map_or_default _ _ _ (fun _ _ => List.mem_cons), hypPaths_plain]
  simp only [← List.flatMap_def, List.mem_flatMap, List.mem_map, eq_comm (a := z)]

theorem mem_flatten_hypPaths_simRoot (g : Adj) (fuel : Nat) (x : Nat) (incl : Bool) (z : N) :
    z ∈ (hypPaths g fuel (some x) true incl).flatten ↔
      z = none ∨ z ∈ (hypPaths g fuel (some x) false incl).flatten := by
  rw [hypPaths_simRoot]
  exact mem_flatten_map_or_default _ _ _ (fun p z => by rw [List.mem_append, List.mem_singleton, or_comm]) z

theorem mem_commonHypernyms (g : Adj) (fuel : Nat) (a b : N) (sim : Bool) (z : N) :
    z ∈ commonHypernyms g fuel a b sim ↔
      z ∈ (hypPaths g fuel a sim true).flatten ∧ z ∈ (hypPaths g fuel b sim true).flatten := by
  simp only [commonHypernyms, commonOf, mem_sortN, List.mem_filter, mem_dedup, List.contains_iff_mem]

theorem mem_commonHypernyms_simRoot (g : Adj) (fuel : Nat) (a b : Nat) (z : N) :
    z ∈ commonHypernyms g fuel (some a) (some b) true ↔
      z = none ∨ z ∈ commonHypernyms g fuel (some a) (some b) false := by
  simp only [mem_commonHypernyms, mem_flatten_hypPaths_simRoot, or_and_left]

end WnVerif.Graph
